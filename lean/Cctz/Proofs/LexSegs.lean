/-
  C08Lex helper proofs: the specification's `Lex.segs` without its fuel argument (`specSegs`), its
  unfolding equations, and the "run absorbs text" lemma.
-/
import Cctz.Spec.FormatLex
import Cctz.Proofs.LexConv

namespace Cctz.Lx
open Cctz Cctz.Bytes Cctz.Format Cctz.Spec Cctz.Spec.Lex

abbrev leadText (s : Bytes) : Bytes := s.takeWhile (· ≠ 37)
abbrev fromPct (s : Bytes) : Bytes := s.dropWhile (· ≠ 37)
abbrev pctCount (s : Bytes) : Nat := ((fromPct s).takeWhile (· = 37)).length
abbrev afterPcts (s : Bytes) : Bytes := (fromPct s).dropWhile (· = 37)

def endSegs : Option Bytes → List Seg
  | some r => [.run r]
  | none => []

/-- one unfolding of `Lex.segs` with the recursive calls abstracted -/
def segsBody (al : Tz.AbsLookup) (t fs : Int) (rec : Option Bytes → Bytes → List Seg) (run : Option Bytes)
    (s : Bytes) : List Seg :=
  if s = [] then endSegs run
  else
    match run with
    | none =>
      let pre : List Seg := [.lit (leadText s), .lit (pcts (pctCount s / 2))]
      if pctCount s % 2 = 0 then pre ++ rec none (afterPcts s)
      else if afterPcts s = [] then pre ++ [.lit [37]]
      else match conv (afterPcts s) with
        | some (c, r) => pre ++ [.lit (renderConv c al t fs)] ++ rec none r
        | none => pre ++ rec (some [37]) (afterPcts s)
    | some r0 =>
      if pctCount s % 2 = 0 ∨ afterPcts s = [] then rec (some (r0 ++ leadText s ++ pcts (pctCount s))) (afterPcts s)
      else match conv (afterPcts s) with
        | some (c, r) => [.run (r0 ++ leadText s ++ pcts (pctCount s - 1)), .lit (renderConv c al t fs)] ++ rec none r
        | none => rec (some (r0 ++ leadText s ++ pcts (pctCount s))) (afterPcts s)

theorem segs_zero (al : Tz.AbsLookup) (t fs : Int) (run : Option Bytes) (s : Bytes) :
    segs al t fs 0 run s = endSegs run := by
  cases run <;> rfl

theorem segs_succ (al : Tz.AbsLookup) (t fs : Int) (fuel : Nat) (run : Option Bytes) (s : Bytes) :
    segs al t fs (fuel + 1) run s = segsBody al t fs (segs al t fs fuel) run s := by
  cases run <;> rfl

theorem afterPcts_length_le (s : Bytes) : (afterPcts s).length ≤ s.length :=
  Nat.le_trans (List.dropWhile_sublist _).length_le (List.dropWhile_sublist _).length_le

theorem afterPcts_length_lt (s : Bytes) (h : s ≠ []) : (afterPcts s).length < s.length := by
  cases s with
  | nil => exact absurd rfl h
  | cons a s =>
    by_cases ha : a = 37
    · subst ha
      have h1 : fromPct (37 :: s) = 37 :: s := by simp [fromPct, List.dropWhile]
      have h2 : afterPcts (37 :: s) = s.dropWhile (· = 37) := by
        simp only [afterPcts, h1]; simp [List.dropWhile]
      rw [h2]
      have := (List.dropWhile_sublist (l := s) (· = 37)).length_le
      simp only [List.length_cons]; omega
    · have h1 : fromPct (a :: s) = fromPct s := by simp [fromPct, List.dropWhile, ha]
      have h2 : afterPcts (a :: s) = afterPcts s := by simp only [afterPcts, h1]
      rw [h2]
      have := afterPcts_length_le s
      simp only [List.length_cons]; omega

theorem segsBody_congr (al : Tz.AbsLookup) (t fs : Int) (rec rec' : Option Bytes → Bytes → List Seg)
    (run : Option Bytes) (s : Bytes) (h : ∀ run' s', s'.length < s.length → rec run' s' = rec' run' s') :
    segsBody al t fs rec run s = segsBody al t fs rec' run s := by
  unfold segsBody
  by_cases hs : s = []
  · rw [if_pos hs, if_pos hs]
  · rw [if_neg hs, if_neg hs]
    have h2 := afterPcts_length_lt s hs
    cases run with
    | none =>
      dsimp only
      rw [h none _ h2, h (some [37]) _ h2]
      cases hc : conv (afterPcts s) with
      | none => rfl
      | some p =>
        obtain ⟨c, r⟩ := p
        have := conv_length _ _ _ hc
        dsimp only
        rw [h none r (by omega)]
    | some r0 =>
      dsimp only
      rw [h _ _ h2]
      cases hc : conv (afterPcts s) with
      | none => rfl
      | some p =>
        obtain ⟨c, r⟩ := p
        have := conv_length _ _ _ hc
        dsimp only
        rw [h none r (by omega)]

theorem segs_fuel (al : Tz.AbsLookup) (t fs : Int) : ∀ (f f' : Nat) (run : Option Bytes) (s : Bytes),
    s.length ≤ f → s.length ≤ f' → segs al t fs f run s = segs al t fs f' run s := by
  intro f
  induction f with
  | zero =>
    intro f' run s h _
    have hs : s = [] := List.length_eq_zero_iff.1 (by omega)
    subst hs
    cases f' with
    | zero => rfl
    | succ f' => rw [segs_zero, segs_succ]; simp [segsBody]
  | succ f ih =>
    intro f' run s h h'
    cases f' with
    | zero =>
      have hs : s = [] := List.length_eq_zero_iff.1 (by omega)
      subst hs
      rw [segs_zero, segs_succ]; simp [segsBody]
    | succ f' =>
      rw [segs_succ, segs_succ]
      apply segsBody_congr
      intro run' s' hl
      exact ih f' run' s' (by omega) (by omega)

/-- the specification's segment list, fuel chosen as the length of the string -/
def specSegs (al : Tz.AbsLookup) (t fs : Int) (run : Option Bytes) (s : Bytes) : List Seg :=
  segs al t fs s.length run s

theorem segs_eq_specSegs (al : Tz.AbsLookup) (t fs : Int) (f : Nat) (run : Option Bytes) (s : Bytes) (h : s.length ≤ f) :
    segs al t fs f run s = specSegs al t fs run s :=
  segs_fuel al t fs f s.length run s h (Nat.le_refl _)

theorem specSegs_eq (al : Tz.AbsLookup) (t fs : Int) (run : Option Bytes) (s : Bytes) :
    specSegs al t fs run s = segsBody al t fs (specSegs al t fs) run s := by
  unfold specSegs
  cases hn : s.length with
  | zero =>
    have hs : s = [] := List.length_eq_zero_iff.1 hn
    subst hs
    rw [segs_zero]; simp [segsBody]
  | succ n =>
    rw [segs_succ]
    apply segsBody_congr
    intro run' s' hl
    exact segs_fuel al t fs _ _ _ _ (by omega) (Nat.le_refl _)


theorem specSegs_nil (al : Tz.AbsLookup) (t fs : Int) (run : Option Bytes) : specSegs al t fs run [] = endSegs run := by
  rw [specSegs_eq]; simp [segsBody]

section cases
variable (al : Tz.AbsLookup) (t fs : Int) (s : Bytes)

theorem specSegs_none_even (hs : s ≠ []) (hk : pctCount s % 2 = 0) :
    specSegs al t fs none s = [.lit (leadText s), .lit (pcts (pctCount s / 2))] ++ specSegs al t fs none (afterPcts s) := by
  rw [specSegs_eq]; unfold segsBody; rw [if_neg hs]; dsimp only; rw [if_pos hk]

theorem specSegs_none_end (hs : s ≠ []) (hk : pctCount s % 2 ≠ 0) (h2 : afterPcts s = []) :
    specSegs al t fs none s = [.lit (leadText s), .lit (pcts (pctCount s / 2))] ++ [.lit [37]] := by
  rw [specSegs_eq]; unfold segsBody; rw [if_neg hs]; dsimp only; rw [if_neg hk, if_pos h2]

theorem specSegs_none_conv (hs : s ≠ []) (hk : pctCount s % 2 ≠ 0) (h2 : afterPcts s ≠ []) (c : Conv) (r : Bytes)
    (hc : conv (afterPcts s) = some (c, r)) :
    specSegs al t fs none s = [.lit (leadText s), .lit (pcts (pctCount s / 2))] ++ [.lit (renderConv c al t fs)] ++ specSegs al t fs none r := by
  rw [specSegs_eq]; unfold segsBody; rw [if_neg hs]; dsimp only; rw [if_neg hk, if_neg h2, hc]

theorem specSegs_none_open (hs : s ≠ []) (hk : pctCount s % 2 ≠ 0) (h2 : afterPcts s ≠ []) (hc : conv (afterPcts s) = none) :
    specSegs al t fs none s = [.lit (leadText s), .lit (pcts (pctCount s / 2))] ++ specSegs al t fs (some [37]) (afterPcts s) := by
  rw [specSegs_eq]; unfold segsBody; rw [if_neg hs]; dsimp only; rw [if_neg hk, if_neg h2, hc]

theorem specSegs_some_pass (r0 : Bytes) (hs : s ≠ []) (hk : pctCount s % 2 = 0 ∨ afterPcts s = []) :
    specSegs al t fs (some r0) s = specSegs al t fs (some (r0 ++ leadText s ++ pcts (pctCount s))) (afterPcts s) := by
  rw [specSegs_eq]; unfold segsBody; rw [if_neg hs]; dsimp only; rw [if_pos hk]

theorem specSegs_some_conv (r0 : Bytes) (hs : s ≠ []) (hk : ¬ (pctCount s % 2 = 0 ∨ afterPcts s = [])) (c : Conv) (r : Bytes)
    (hc : conv (afterPcts s) = some (c, r)) :
    specSegs al t fs (some r0) s =
      [.run (r0 ++ leadText s ++ pcts (pctCount s - 1)), .lit (renderConv c al t fs)] ++ specSegs al t fs none r := by
  rw [specSegs_eq]; unfold segsBody; rw [if_neg hs]; dsimp only; rw [if_neg hk, hc]

theorem specSegs_some_none (r0 : Bytes) (hs : s ≠ []) (hc : conv (afterPcts s) = none) :
    specSegs al t fs (some r0) s = specSegs al t fs (some (r0 ++ leadText s ++ pcts (pctCount s))) (afterPcts s) := by
  rw [specSegs_eq]; unfold segsBody; rw [if_neg hs]; dsimp only; rw [hc]; split <;> rfl

/-- an open run swallows a following character that is not a percent sign -/
theorem specSegs_absorb (r0 : Bytes) (c : UInt8) (hc : c ≠ 37) :
    specSegs al t fs (some r0) (c :: s) = specSegs al t fs (some (r0 ++ [c])) s := by
  have e1 : leadText (c :: s) = c :: leadText s := by simp [leadText, List.takeWhile, hc]
  have e2 : fromPct (c :: s) = fromPct s := by simp [fromPct, List.dropWhile, hc]
  have e3 : pctCount (c :: s) = pctCount s := by simp only [pctCount, e2]
  have e4 : afterPcts (c :: s) = afterPcts s := by simp only [afterPcts, e2]
  by_cases hs : s = []
  · subst hs
    rw [specSegs_some_pass _ _ _ _ _ (by simp) (Or.inl (by rw [e3]; rfl))]
    rw [e1, e3, e4]
    show specSegs al t fs (some (r0 ++ [c] ++ [])) [] = _
    rw [List.append_nil]
  · rw [specSegs_eq al t fs (some r0), specSegs_eq al t fs (some (r0 ++ [c]))]
    unfold segsBody
    rw [if_neg (by simp), if_neg hs]
    simp only [e1, e3, e4, List.append_assoc, List.cons_append, List.nil_append]

end cases

end Cctz.Lx
