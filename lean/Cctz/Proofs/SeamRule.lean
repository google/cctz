/-
  `SeamAt` for the tables `ExtendTransitions` builds: recorded entries followed by the rule
  instants of the years y0 … y0+401 (column-wise, as in `C01Glue.ExtendedKeys`), `lastYear = y0+401`.
  It holds when every rule instant lies, on both clocks of the rule, inside the civil year it is
  computed for (`InYear`) — which is what fails for a footer like `J1` at `-1` (the file
  `Seam.newYearTzif`).
-/
import Cctz.Proofs.SeamDefs
import Cctz.Proofs.SeamSem
import Cctz.Proofs.RuleGlue
import Cctz.Proofs.TcSeg

namespace Cctz.Seam
open Cctz Cctz.Tz Cctz.Spec Cctz.Rg

/-- every instant of the rule lies, on the standard and on the daylight clock, inside the civil
year it is computed for -/
def InYear (s e : Int → Int) (stdOff dstOff : Int) : Prop :=
  ∀ y a, Inst s e y a →
    yearStart y ≤ a + stdOff ∧ yearStart y ≤ a + dstOff ∧
    a + stdOff ≤ yearStart (y + 1) ∧ a + dstOff ≤ yearStart (y + 1)

theorem trn_of_time {z : Zone} (wf : TableWF z) {x : Transition} (hx : x ∈ z.transitions.toList) {i : Nat}
    (hi : i < z.transitions.size) (ht : timeOf z i = x.unixTime) : trn z i = x := by
  obtain ⟨j, hj, e⟩ := mem_trn z x hx
  by_cases hij : i = j
  · rw [hij]; exact e
  · exfalso
    rcases Nat.lt_or_gt_of_ne hij with h | h
    · have := wf.timeSorted i j h hj
      unfold timeOf at ht; rw [e] at this; omega
    · have := wf.timeSorted j i h hi
      unfold timeOf at ht; rw [e] at this; omega

theorem inst_max (s e : Int → Int) (y : Int) : Inst s e y (max (s y) (e y)) := by unfold Inst; omega
theorem inst_min (s e : Int → Int) (y : Int) : Inst s e y (min (s y) (e y)) := by unfold Inst; omega

theorem chain_le_max {s e : Int → Int} (c : Chain s e) {y y' a : Int} (ha : Inst s e y a) (h : y ≤ y') :
    a ≤ max (s y') (e y') := by
  by_cases h' : y = y'
  · subst h'; unfold Inst at ha; omega
  · have := c.lt (show y < y' by omega) ha (inst_max s e y'); omega

theorem chain_min_le {s e : Int → Int} (c : Chain s e) {y y' a : Int} (ha : Inst s e y a) (h : y' ≤ y) :
    min (s y') (e y') ≤ a := by
  by_cases h' : y' = y
  · subst h'; unfold Inst at ha; omega
  · have := c.lt (show y' < y by omega) (inst_min s e y') ha; omega

theorem InYear.off {s e : Int → Int} {stdOff dstOff : Int} (iy : InYear s e stdOff dstOff) {y a o : Int}
    (ha : Inst s e y a) (ho : o = stdOff ∨ o = dstOff) : yearStart y ≤ a + o ∧ a + o ≤ yearStart (y + 1) := by
  have := iy y a ha
  rcases ho with h | h <;> rw [h] <;> omega

section
variable {z : Zone} (wf : TableWF z) {rec : List Transition} (hrec : rec ≠ [])
  {s e : Int → Int} (ps : Per s) (pe : Per e) {dstTi stdTi : Nat} {y0 : Int}
  {gen : List Transition} (hl : z.transitions.toList = rec ++ gen)
  (hkeys : gen.map key = (genList s e dstTi stdTi (lastTime rec) y0).map key)
  (rg : Reg s e y0 (lastTime rec)) (c : Chain s e)
  {stdOff dstOff : Int} (hso : (typ z stdTi).utcOffset = stdOff) (hdo : (typ z dstTi).utcOffset = dstOff)

include wf hl in
theorem rec_le (x : Transition) (hx : x ∈ rec) : x.unixTime ≤ lastTime rec := by
  have hne : rec ≠ [] := List.ne_nil_of_mem hx
  have := le_getLast rec hne (pairwise_split z wf hl).1 x hx
  rw [lastTime_eq rec hne]; exact this

include wf ps pe hl hkeys rg in
theorem chain_of_table : Chain s e := by
  obtain ⟨_, pg, _⟩ := pairwise_split z wf hl
  exact chain_of_sorted ps pe
    (sorted_of_genList s e dstTi stdTi (lastTime rec) y0 (pairwise_of_keys hkeys pg)) rg

include hkeys hso hdo in
theorem gen_off {x : Transition} (hx : x ∈ gen) :
    (typ z x.typeIndex).utcOffset = stdOff ∨ (typ z x.typeIndex).utcOffset = dstOff := by
  obtain ⟨_, kind, _, _, _, _, hti⟩ := gen_kind hkeys hx
  rw [hti]
  cases kind
  · left; simpa using hso
  · right; simpa using hdo

include wf hrec hl hkeys rg c in
theorem lastT_rule : lastT z = max (s (y0 + 401)) (e (y0 + 401)) := by
  have := rg.r2 (y0 + 401) (by omega) (by omega)
  exact last_time_eq z wf rec hrec s e dstTi stdTi y0 c gen hl hkeys (by omega)

include wf hrec hl hkeys hso hdo in
theorem off_after_rec
    (hro : (typ z (lastType rec)).utcOffset = stdOff ∨ (typ z (lastType rec)).utcOffset = dstOff)
    {t : Int} (ht : lastTime rec ≤ t) : offAt z t = stdOff ∨ offAt z t = dstOff := by
  rw [offAt_typeAt]
  rcases typeAt_split z wf rec gen hrec hl t ht with ⟨_, hty⟩ | ⟨x, hx, _, _, hty⟩
  · rw [hty]; exact hro
  · rw [hty]; exact gen_off hkeys hso hdo hx

include wf hrec hl hkeys rg c ps pe in
theorem window_start : lastT z - k400 = max (s (y0 + 1)) (e (y0 + 1)) := by
  have ps1 := ps (y0 + 1) 1
  have pe1 := pe (y0 + 1) 1
  rw [show y0 + 1 + 400 * 1 = y0 + 401 by omega] at ps1 pe1
  rw [lastT_rule wf hrec hl hkeys rg c]; unfold k400; omega

include ps pe hkeys c in
/-- generated entries one cycle apart have the same kind, hence the same type -/
theorem gen_type_period {x x' : Transition} (hx : x ∈ gen) (hx' : x' ∈ gen)
    (h : x'.unixTime = x.unixTime + k400) : x.typeIndex = x'.typeIndex := by
  obtain ⟨_, _, _, _, hk, _, ht⟩ := gen_kind hkeys hx
  obtain ⟨_, _, _, _, hk', _, ht'⟩ := gen_kind hkeys hx'
  have hsh := hk.shift ps pe 1
  rw [show x.unixTime + 1 * 12622780800 = x'.unixTime by rw [h]; unfold k400; omega] at hsh
  rw [ht, ht', IsK.kind_eq c hsh hk']

include wf hl hkeys rg c in
theorem entry_le_window {x : Transition} (hx : x ∈ z.transitions.toList)
    (h : x.unixTime < min (s (y0 + 2)) (e (y0 + 2))) : x.unixTime ≤ max (s (y0 + 1)) (e (y0 + 1)) := by
  rw [hl] at hx
  rcases List.mem_append.1 hx with h' | h'
  · have := rec_le wf hl _ h'
    have := rg.r1
    omega
  · obtain ⟨y, _, _, _, hk, _, _⟩ := gen_kind hkeys h'
    by_cases hy : y ≤ y0 + 1
    · exact chain_le_max c hk.inst hy
    · have := chain_min_le c hk.inst (show y0 + 2 ≤ y by omega); omega

include wf hrec hl hkeys rg c ps pe in
theorem off_window {t : Int} (h1 : lastT z - k400 ≤ t) (h2 : t < min (s (y0 + 2)) (e (y0 + 2))) :
    offAt z t = lastOff z := by
  obtain ⟨xL, hxL, exL⟩ := gen_of_inst hkeys (y := y0 + 401) (by omega) (by omega)
    (inst_max s e (y0 + 401)) (by have := rg.r2 (y0 + 401) (by omega) (by omega); omega)
  obtain ⟨xW, hxW, exW⟩ := gen_of_inst hkeys (y := y0 + 1) (by omega) (by omega)
    (inst_max s e (y0 + 1)) (by have := rg.r1; omega)
  have hW := window_start wf hrec ps pe hl hkeys rg c
  rw [← lastT_rule wf hrec hl hkeys rg c] at exL
  rw [← hW] at exW
  have memL : xL ∈ z.transitions.toList := by rw [hl]; exact List.mem_append_right _ hxL
  have memW : xW ∈ z.transitions.toList := by rw [hl]; exact List.mem_append_right _ hxW
  have hoL : lastOff z = (typ z xL.typeIndex).utcOffset := by
    have hn := wf.nonempty
    unfold lastOff offOf
    rw [trn_of_time wf memL (show z.transitions.size - 1 < z.transitions.size by omega) exL.symm]
  -- the latest entry at or before `t` is `xW`, one cycle before the last entry `xL`
  rw [offAt_typeAt, hoL, ← gen_type_period ps pe hkeys c hxW hxL (by rw [exL, exW]; omega)]
  congr 2
  refine typeAt_of_max z wf t xW memW (exW ▸ h1) fun x' hx' hx't => ?_
  rw [exW, hW]
  exact entry_le_window wf hl hkeys rg c hx' (Int.lt_of_le_of_lt hx't h2)

include wf hrec hl hkeys rg c hso hdo ps pe in
theorem seamAt_of_rule
    (hro : (typ z (lastType rec)).utcOffset = stdOff ∨ (typ z (lastType rec)).utcOffset = dstOff)
    (hshow : ∀ u, u < lastTime rec → u + offAt z u < yearStart (y0 + 2))
    (iy : InYear s e stdOff dstOff) : SeamAt z (y0 + 401) := by
  have hoff := fun t => off_after_rec wf hrec hl hkeys hso hdo hro (t := t)
  have hW := window_start wf hrec ps pe hl hkeys rg c
  have iL : Inst s e (y0 + 401) (lastT z) := by
    rw [lastT_rule wf hrec hl hkeys rg c]; exact inst_max s e _
  have iW : Inst s e (y0 + 1) (lastT z - k400) := by rw [hW]; exact inst_max s e _
  have hrW : lastTime rec < lastT z - k400 := by have := rg.r1; omega
  clear hW
  have hk : (0 : Int) < k400 := by decide
  have hy : y0 + 401 - 399 = y0 + 2 := by omega
  have hy' : y0 + 1 + 1 = y0 + 2 := by omega
  refine ⟨?_, ?_, ?_, ?_⟩
  · rw [← offAt_last wf (Int.le_refl _)]
    exact (iy.off iL (hoff _ (by omega))).2
  · rw [← offAt_before_last wf]
    exact (iy.off iL (hoff _ (by omega))).2
  · intro u hu
    rw [hy]
    rcases Int.lt_or_le u (lastTime rec) with h | h
    · exact hshow u h
    · have := (iy.off iW (hoff u h)).2
      rw [hy'] at this; omega
  · intro t ht1 ht2 hd
    rcases Int.lt_or_le t (min (s (y0 + 2)) (e (y0 + 2))) with hlt | hge
    · exact off_window wf hrec ps pe hl hkeys rg c ht1 hlt
    · exfalso
      have h1 := (iy.off (inst_min s e (y0 + 2)) (hoff t (by omega))).1
      have h2 := (iy.off (inst_min s e (y0 + 2)) (hoff (lastT z) (by omega))).1
      rw [offAt_last wf (Int.le_refl _)] at h2
      rw [hy] at hd
      generalize min (s (y0 + 2)) (e (y0 + 2)) = m at *
      omega

end
end Cctz.Seam
