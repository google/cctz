/-
  C08 helper proofs: single iterations of `formatLoop` at a lone '%' (which branch is taken), and the
  RFC 3339 format evaluated with them.
-/
import Cctz.Proofs.FmLiteral
import Cctz.Proofs.FmRender
import Cctz.Proofs.CivilNorm
import Cctz.Proofs.Weekday

namespace Cctz.Fm
open Cctz Cctz.Bytes Cctz.Format Cctz.Wd Cctz.Spec Cctz.Lx

theorem specTail_simple (fmt : Array UInt8) (al : Tz.AbsLookup) (tm : Tm) (t fs : Int) (fuel : Nat)
    (out2 : List Seg) (pending2 cur2 percent : Nat)
    (h1 : ¬ (cur2 = fmt.size ∨ (cur2 - percent) % 2 = 0))
    (h2 : chAt fmt cur2 = 0 ∨ (Gen.formatSimpleSpecs.contains ((chAt fmt cur2).toNat : Int)) = true) :
    specTail fmt al tm t fs fuel out2 pending2 cur2 percent =
      simplePiece al tm t (chAt fmt cur2) >>= fun piece =>
        formatLoop fmt al tm t fs fuel
          { out := flushTo fmt pending2 (cur2 - 1) out2 ++ [.lit piece], pending := cur2 + 1, cur := cur2 + 1 } := by
  unfold specTail
  rw [if_neg h1, if_pos h2]

theorem specTail_E (fmt : Array UInt8) (al : Tz.AbsLookup) (tm : Tm) (t fs : Int) (fuel : Nat)
    (out2 : List Seg) (pending2 cur2 percent : Nat)
    (h1 : ¬ (cur2 = fmt.size ∨ (cur2 - percent) % 2 = 0))
    (h2 : chAt fmt cur2 = 69) :
    specTail fmt al tm t fs fuel out2 pending2 cur2 percent =
      eTail fmt al tm t fs fuel out2 pending2 cur2 := by
  unfold specTail colonTail
  rw [if_neg h1, h2, if_neg (by decide), if_neg (fun h => absurd h.1 (by decide))]

theorem prep_pct (fmt : Array UInt8) (out : List Seg) (p : Nat) (h0 : p + 1 < fmt.size)
    (h1 : chAt fmt p = 37) (h2 : chAt fmt (p + 1) ≠ 37) :
    prep fmt { out := out, pending := p, cur := p } = (out ++ [Seg.lit []], p, p + 1, p) := by
  obtain ⟨ht, hk⟩ := scan_pct fmt p h0 h1 h2
  have hc1 : cur1 fmt p = p := by unfold cur1; rw [ht]; rfl
  have hc2 : cur2 fmt p = p + 1 := by unfold cur2; rw [hc1, hk]
  rw [prep_norun fmt _ (Nat.le_of_lt (Nat.lt_of_succ_lt h0)) rfl]
  simp only [prepSegs, prepPending, ht, hk, hc1, hc2]
  simp [Spec.Lex.pcts]
  omega

theorem prep_lit_pct (fmt : Array UInt8) (out : List Seg) (p : Nat) (h0 : p + 2 < fmt.size)
    (h1 : chAt fmt p ≠ 37) (h2 : chAt fmt (p + 1) = 37) (h3 : chAt fmt (p + 2) ≠ 37) :
    prep fmt { out := out, pending := p, cur := p } =
      (out ++ [Seg.lit [chAt fmt p]] ++ [Seg.lit []], p + 1, p + 2, p + 1) := by
  obtain ⟨ht', hk'⟩ := scan_pct fmt (p + 1) h0 h2 h3
  obtain ⟨ht, hk⟩ := scan_text fmt p (by omega) h1
  rw [ht'] at ht
  rw [hk'] at hk
  have hc1 : cur1 fmt p = p + 1 := by unfold cur1; rw [ht]; rfl
  have hc2 : cur2 fmt p = p + 2 := by unfold cur2; rw [hc1, hk]
  rw [prep_norun fmt _ (by show p ≤ fmt.size; omega) rfl]
  simp only [prepSegs, prepPending, ht, hk, hc1, hc2]
  simp [Spec.Lex.pcts]
  omega

theorem flushTo_self (fmt : Array UInt8) (p : Nat) (o : List Seg) : flushTo fmt p p o = o := by
  simp [flushTo]

theorem loop_pct_simple (fmt : Array UInt8) (al : Tz.AbsLookup) (tm : Tm) (t fs : Int) (fuel : Nat)
    (out : List Seg) (p : Nat) (h0 : p + 1 < fmt.size) (h1 : chAt fmt p = 37)
    (h2 : (Gen.formatSimpleSpecs.contains ((chAt fmt (p + 1)).toNat : Int)) = true) (h3 : chAt fmt (p + 1) ≠ 37) :
    formatLoop fmt al tm t fs (fuel + 1) { out := out, pending := p, cur := p } =
      simplePiece al tm t (chAt fmt (p + 1)) >>= fun piece =>
        formatLoop fmt al tm t fs fuel
          { out := out ++ [Seg.lit []] ++ [.lit piece], pending := p + 2, cur := p + 2 } := by
  rw [loop_step _ _ _ _ _ _ _ _ _ _ _ (show p ≠ fmt.size by omega) (prep_pct fmt out p h0 h1 h3),
    specTail_simple _ _ _ _ _ _ _ _ _ _ (by omega) (Or.inr h2)]
  simp only [Nat.add_sub_cancel, flushTo_self]

theorem loop_lit_simple (fmt : Array UInt8) (al : Tz.AbsLookup) (tm : Tm) (t fs : Int) (fuel : Nat)
    (out : List Seg) (p : Nat) (h0 : p + 2 < fmt.size) (h1 : chAt fmt p ≠ 37) (h1' : chAt fmt (p + 1) = 37)
    (h2 : (Gen.formatSimpleSpecs.contains ((chAt fmt (p + 2)).toNat : Int)) = true) (h3 : chAt fmt (p + 2) ≠ 37) :
    formatLoop fmt al tm t fs (fuel + 1) { out := out, pending := p, cur := p } =
      simplePiece al tm t (chAt fmt (p + 2)) >>= fun piece =>
        formatLoop fmt al tm t fs fuel
          { out := out ++ [Seg.lit [chAt fmt p]] ++ [Seg.lit []] ++ [.lit piece], pending := p + 3, cur := p + 3 } := by
  rw [loop_step _ _ _ _ _ _ _ _ _ _ _ (show p ≠ fmt.size by omega) (prep_lit_pct fmt out p h0 h1 h1' h3),
    specTail_simple _ _ _ _ _ _ _ _ _ _ (by omega) (Or.inr h2)]
  simp only [show p + 2 - 1 = p + 1 by omega, flushTo_self]

theorem loop_pct_ET (fmt : Array UInt8) (al : Tz.AbsLookup) (tm : Tm) (t fs : Int) (fuel : Nat)
    (out : List Seg) (p : Nat) (h0 : p + 2 < fmt.size) (h1 : chAt fmt p = 37)
    (h2 : chAt fmt (p + 1) = 69) (h3 : chAt fmt (p + 1 + 1) = 84) :
    formatLoop fmt al tm t fs (fuel + 1) { out := out, pending := p, cur := p } =
      formatLoop fmt al tm t fs fuel
        { out := out ++ [Seg.lit []] ++ [.lit [84]], pending := p + 3, cur := p + 3 } := by
  rw [loop_step _ _ _ _ _ _ _ _ _ _ _ (show p ≠ fmt.size by omega)
      (prep_pct fmt out p (by omega) h1 (by rw [h2]; decide)),
    specTail_E _ _ _ _ _ _ _ _ _ _ (by omega) h2]
  unfold eTail
  rw [if_neg (by rw [h2]; simp; omega)]
  dsimp only
  rw [if_pos h3, if_neg (by omega)]

theorem loop_pct_Ez (fmt : Array UInt8) (al : Tz.AbsLookup) (tm : Tm) (t fs : Int) (fuel : Nat)
    (out : List Seg) (p : Nat) (h0 : p + 2 < fmt.size) (h1 : chAt fmt p = 37)
    (h2 : chAt fmt (p + 1) = 69) (h3 : chAt fmt (p + 1 + 1) = 122) :
    formatLoop fmt al tm t fs (fuel + 1) { out := out, pending := p, cur := p } =
      formatOffset al.offset [58] >>= fun b => scratch b >>= fun b =>
      formatLoop fmt al tm t fs fuel
        { out := out ++ [Seg.lit []] ++ [.lit b], pending := p + 3, cur := p + 3 } := by
  rw [loop_step _ _ _ _ _ _ _ _ _ _ _ (show p ≠ fmt.size by omega)
      (prep_pct fmt out p (by omega) h1 (by rw [h2]; decide)),
    specTail_E _ _ _ _ _ _ _ _ _ _ (by omega) h2]
  unfold eTail
  rw [if_neg (by rw [h2]; simp; omega)]
  dsimp only
  rw [h3, if_neg (by decide), if_pos rfl, if_neg (by omega)]

/-- `%E*S`: seconds, then the fraction with trailing zeros removed -/
def starS (al : Tz.AbsLookup) (fs : Int) : Ck Bytes := starPiece al fs True

theorem starPiece_S (al : Tz.AbsLookup) (fs : Int) (P : Prop) [Decidable P] (h : P) :
    starPiece al fs P = starS al fs := by
  unfold starS starPiece
  rw [if_pos h, if_pos trivial]

theorem loop_lit_EstarS (fmt : Array UInt8) (al : Tz.AbsLookup) (tm : Tm) (t fs : Int) (fuel : Nat)
    (out : List Seg) (p : Nat) (h0 : p + 5 ≤ fmt.size) (h1 : chAt fmt p ≠ 37) (h1' : chAt fmt (p + 1) = 37)
    (h2 : chAt fmt (p + 2) = 69) (h3 : chAt fmt (p + 2 + 1) = 42) (h4 : chAt fmt (p + 2 + 1 + 1) = 83)
    (h5 : p + 4 ≠ fmt.size) :
    formatLoop fmt al tm t fs (fuel + 1) { out := out, pending := p, cur := p } =
      starS al fs >>= fun piece =>
      scratch (format64 15 fs ++ [46, 48, 48]) >>= fun _ =>
      formatLoop fmt al tm t fs fuel
        { out := out ++ [Seg.lit [chAt fmt p]] ++ [Seg.lit []] ++ [.lit piece], pending := p + 5, cur := p + 5 } := by
  rw [loop_step _ _ _ _ _ _ _ _ _ _ _ (show p ≠ fmt.size by omega)
      (prep_lit_pct fmt out p (by omega) h1 h1' (by rw [h2]; decide)),
    specTail_E _ _ _ _ _ _ _ _ _ _ (by omega) h2]
  unfold eTail
  rw [if_neg (by rw [h2]; simp; omega)]
  dsimp only
  rw [h3, if_neg (by decide), if_neg (by decide), if_neg (by rw [h4]; simp), if_pos ⟨rfl, by omega, Or.inl h4⟩,
    starPiece_S _ _ _ h4, if_neg (by omega)]

def rfcFmt : Bytes :=
  [37, 89, 45, 37, 109, 45, 37, 100, 37, 69, 84, 37, 72, 58, 37, 77, 58, 37, 69, 42, 83, 37, 69, 122]

theorem rfc_ofString : ofString "%Y-%m-%d%ET%H:%M:%E*S%Ez" = rfcFmt := by decide +kernel

theorem scratch_ok (b : Bytes) : (scratch b).ok ↔ b.length ≤ 21 := by
  unfold scratch Gen.formatBufSize
  split
  · simp; omega
  · simp [Ck.ok, flagOob, Flags.none]; omega

theorem simplePiece_Y (al : Tz.AbsLookup) (tm : Tm) (t : Int) :
    simplePiece al tm t 89 = scratch (format64 0 al.cs.y) := rfl
theorem simplePiece_m (al : Tz.AbsLookup) (tm : Tm) (t : Int) :
    simplePiece al tm t 109 = format02d al.cs.m >>= scratch := rfl
theorem simplePiece_d (al : Tz.AbsLookup) (tm : Tm) (t : Int) :
    simplePiece al tm t 100 = format02d al.cs.d >>= scratch := rfl
theorem simplePiece_H (al : Tz.AbsLookup) (tm : Tm) (t : Int) :
    simplePiece al tm t 72 = format02d al.cs.hh >>= scratch := rfl
theorem simplePiece_M (al : Tz.AbsLookup) (tm : Tm) (t : Int) :
    simplePiece al tm t 77 = format02d al.cs.mm >>= scratch := rfl

/-- what the loop emits for the RFC 3339 format, each piece a `lit` segment -/
def rfcPieces (al : Tz.AbsLookup) (fs : Int) : List Bytes :=
  [[], format64 0 al.cs.y, [45], [], (format02d al.cs.m).val, [45], [], (format02d al.cs.d).val, [], [84], [],
   (format02d al.cs.hh).val, [58], [], (format02d al.cs.mm).val, [58], [], (starS al fs).val, [],
   (formatOffset al.offset [58]).val]

theorem bind_okval {α β} {x : Ck α} {f : α → Ck β} {b : β} (hx : x.ok) (h : (f x.val).ok ∧ (f x.val).val = b) :
    (x >>= f).ok ∧ (x >>= f).val = b :=
  ⟨(Ck.bind_ok _ _).2 ⟨hx, h.1⟩, h.2⟩

theorem rfc_loop (al : Tz.AbsLookup) (tm : Tm) (t fs : Int)
    (hY : (scratch (format64 0 al.cs.y)).ok) (hm : (format02d al.cs.m >>= scratch).ok)
    (hd : (format02d al.cs.d >>= scratch).ok) (hH : (format02d al.cs.hh >>= scratch).ok)
    (hM : (format02d al.cs.mm >>= scratch).ok) (hS : (starS al fs).ok)
    (hS' : (scratch (format64 15 fs ++ [46, 48, 48])).ok)
    (hz : (formatOffset al.offset [58] >>= scratch).ok) :
    (formatLoop rfcFmt.toArray al tm t fs 26 {}).ok ∧
      (formatLoop rfcFmt.toArray al tm t fs 26 {}).val = (rfcPieces al fs).map Seg.lit := by
  have c1 : chAt rfcFmt.toArray (0 + 1) = 89 := by decide
  have c4 : chAt rfcFmt.toArray (2 + 2) = 109 := by decide
  have c7 : chAt rfcFmt.toArray (5 + 2) = 100 := by decide
  have c12 : chAt rfcFmt.toArray (11 + 1) = 72 := by decide
  have c15 : chAt rfcFmt.toArray (13 + 2) = 77 := by decide
  rw [Ck.bind_ok] at hz
  rw [loop_pct_simple rfcFmt.toArray al tm t fs 25 [] 0 (by decide) (by decide) (by decide) (by decide), c1]
  refine bind_okval hY ?_
  rw [loop_lit_simple rfcFmt.toArray al tm t fs 24 _ 2 (by decide) (by decide) (by decide) (by decide) (by decide), c4]
  refine bind_okval hm ?_
  rw [loop_lit_simple rfcFmt.toArray al tm t fs 23 _ 5 (by decide) (by decide) (by decide) (by decide) (by decide), c7]
  refine bind_okval hd ?_
  rw [loop_pct_ET rfcFmt.toArray al tm t fs 22 _ 8 (by decide) (by decide) (by decide) (by decide),
    loop_pct_simple rfcFmt.toArray al tm t fs 21 _ 11 (by decide) (by decide) (by decide) (by decide), c12]
  refine bind_okval hH ?_
  rw [loop_lit_simple rfcFmt.toArray al tm t fs 20 _ 13 (by decide) (by decide) (by decide) (by decide) (by decide), c15]
  refine bind_okval hM ?_
  rw [loop_lit_EstarS rfcFmt.toArray al tm t fs 19 _ 16 (by decide) (by decide) (by decide) (by decide) (by decide)
    (by decide) (by decide)]
  refine bind_okval hS (bind_okval hS' ?_)
  rw [loop_pct_Ez rfcFmt.toArray al tm t fs 18 _ 21 (by decide) (by decide) (by decide) (by decide)]
  refine bind_okval hz.1 (bind_okval hz.2 ?_)
  rw [loop_done' rfcFmt.toArray al tm t fs 17 _ _ (by decide)]
  refine ⟨Ck.pure_ok _, ?_⟩
  simp only [Ck.pure_val, scratch_val, show chAt rfcFmt.toArray 2 = 45 by decide,
    show chAt rfcFmt.toArray 5 = 45 by decide, show chAt rfcFmt.toArray 13 = 58 by decide,
    show chAt rfcFmt.toArray 16 = 58 by decide,
    simplePiece_Y, simplePiece_m, simplePiece_d, simplePiece_H, simplePiece_M, Ck.bindv, rfcPieces,
    List.nil_append, List.cons_append, List.map_cons, List.map_nil]

theorem toTM_ok (al : Tz.AbsLookup) (hv : Valid al.cs) (hy : inI64 al.cs.y) : (toTM al).ok := by
  unfold toTM
  simp only [Ck.bind_ok, Ck.pure_ok, and_true]
  refine ⟨?_, (getWeekday_correct al.cs hv).1, (getYearday_correct al.cs hv).1⟩
  split
  · exact Ck.pure_ok _
  · rw [Ck.bind_ok, chk64_ok, chk64_val]
    refine ⟨?_, by split <;> exact Ck.pure_ok _⟩
    unfold inI64 i64min i64max i32min at *; omega

theorem formatSegs_ok (fmt : Bytes) (al : Tz.AbsLookup) (t fs : Int) :
    (formatSegs fmt al t fs).ok ↔
      (toTM al).ok ∧ (formatLoop fmt.toArray al (toTM al).val t fs (fmt.length + 2) {}).ok := by
  unfold formatSegs
  simp only [Ck.bind_ok, Ck.pure_ok, and_true]

theorem format02d_scratch_ok (v : Int) (h0 : 0 ≤ v) (h1 : v ≤ 99) : (format02d v >>= scratch).ok := by
  rw [Ck.bind_ok, scratch_ok, format02d_length]
  exact ⟨(format02d_spec v h0 h1).1, by omega⟩

theorem starS_val (al : Tz.AbsLookup) (fs : Int) (h0 : 0 ≤ fs) :
    (starS al fs).val = (format02d al.cs.ss).val ++ (if fracStar fs = [] then [] else 46 :: fracStar fs) := by
  unfold starS starPiece
  have h15 : format64 15 fs = decPad 15 fs.toNat := format64_nonneg 15 fs h0
  rw [if_pos trivial, Ck.bindv, Ck.pure_val, h15]
  simp only [fracStar, List.isEmpty_iff]
  congr 1

theorem rfc_segs (al : Tz.AbsLookup) (t fs : Int) (hv : Valid al.cs) (hy : inI64 al.cs.y)
    (ho1 : -90000 < al.offset) (ho2 : al.offset < 90000) (h0 : 0 ≤ fs) (h1 : fs < 1000000000000000) :
    let r := formatSegs (ofString "%Y-%m-%d%ET%H:%M:%E*S%Ez") al t fs
    r.ok ∧ (∀ sg ∈ r.val.2, ∃ b, sg = Seg.lit b) ∧
    render (fun _ _ => []) r.val.1 r.val.2 =
      decInt al.cs.y ++ [45] ++ decPad 2 al.cs.m.toNat ++ [45] ++ decPad 2 al.cs.d.toNat ++ [84] ++
      decPad 2 al.cs.hh.toNat ++ [58] ++ decPad 2 al.cs.mm.toNat ++ [58] ++ decPad 2 al.cs.ss.toNat ++
      (if fracStar fs = [] then [] else 46 :: fracStar fs) ++ offHM true al.offset := by
  obtain ⟨hm1, hm2, hd1, hd2, hh1, hh2, hmm1, hmm2, hs1, hs2⟩ := hv
  have hdb := daysInMonth_pos al.cs.y al.cs.m
  have hv : Valid al.cs := ⟨hm1, hm2, hd1, hd2, hh1, hh2, hmm1, hmm2, hs1, hs2⟩
  intro r
  have hr : r = formatSegs rfcFmt al t fs := by simp only [r, rfc_ofString]
  have h15 : format64 15 fs = decPad 15 fs.toNat := format64_nonneg 15 fs h0
  obtain ⟨hok, hsegs⟩ : (formatLoop rfcFmt.toArray al (toTM al).val t fs 26 {}).ok ∧
      (formatLoop rfcFmt.toArray al (toTM al).val t fs 26 {}).val = (rfcPieces al fs).map Seg.lit := by
    apply rfc_loop
    · rw [scratch_ok]
      have := format64_length_le 0 al.cs.y 19 (by decide) (natAbs_lt_of_inI64 _ hy) (by omega)
      omega
    · exact format02d_scratch_ok _ (by omega) (by omega)
    · exact format02d_scratch_ok _ (by omega) (by omega)
    · exact format02d_scratch_ok _ (by omega) (by omega)
    · exact format02d_scratch_ok _ (by omega) (by omega)
    · unfold starS starPiece
      rw [if_pos trivial, Ck.bind_ok]
      exact ⟨(format02d_spec _ hs1 (by omega)).1, Ck.pure_ok _⟩
    · rw [scratch_ok, List.length_append, h15, decPad_length_of_lt 15 _ (by decide) (by omega)]
      decide
    · rw [Ck.bind_ok, scratch_ok]
      have := formatOffset_length al.offset [58]
      exact ⟨formatOffset_ok _ _ ho1 ho2, by omega⟩
  have hval : r.val = ((toTM al).val, (rfcPieces al fs).map Seg.lit) := by
    rw [hr, formatSegs_val]
    exact congrArg _ hsegs
  refine ⟨by rw [hr, formatSegs_ok]; exact ⟨toTM_ok al hv hy, hok⟩, ?_, ?_⟩
  · rw [hval]
    intro sg hsg
    obtain ⟨b, _, rfl⟩ := List.mem_map.1 hsg
    exact ⟨b, rfl⟩
  · rw [hval]
    show render _ _ ((rfcPieces al fs).map Seg.lit) = _
    rw [render_lits]
    simp only [rfcPieces, List.flatten_cons, List.flatten_nil, List.nil_append, List.append_nil]
    rw [format64_zero, (format02d_spec _ (by omega) (by omega)).2, (format02d_spec _ (by omega) (by omega)).2,
      (format02d_spec _ hh1 (by omega)).2, (format02d_spec _ hmm1 (by omega)).2,
      starS_val al fs h0, (format02d_spec _ hs1 (by omega)).2, (formatOffset_val _ ho1 ho2).2.1]
    simp only [List.append_assoc, List.cons_append, List.nil_append]

end Cctz.Fm
