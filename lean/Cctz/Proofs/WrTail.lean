/-
  Round-trip helper proofs, parse side: what `parse` does after the specifier loop — the civil
  second is rebuilt without normalisation, the offset guard does not fire, and the lookup of
  `cs - offset` in the built-in UTC table is UNIQUE at the original instant.
-/
import Cctz.Proofs.WrLoop
import Cctz.Proofs.CivilArith
import Cctz.Proofs.LtBuiltin
import Cctz.Properties.C02

namespace Cctz.Wr
open Cctz Cctz.Spec Cctz.Tz Cctz.Tl

/-! ### the civil second -/

theorem civilNew_valid (cs : Fields) (hv : Valid cs) :
    (Civil.civilNew .second cs.y cs.m cs.d cs.hh cs.mm cs.ss).val = cs := by
  show Civil.align .second (Civil.nSec cs.y cs.m cs.d cs.hh cs.mm cs.ss).val = cs
  have hn := nSec_norm cs.y cs.m cs.d cs.hh cs.mm cs.ss
  obtain ⟨hm1, hm2, hd1, hd2, hh1, hh2, hmm1, hmm2, hs1, hs2⟩ := hv
  have hv : Valid cs := ⟨hm1, hm2, hd1, hd2, hh1, hh2, hmm1, hmm2, hs1, hs2⟩
  have es : cs.ss / 60 = 0 := by omega
  have e3 : cs.ss % 60 = cs.ss := by omega
  have em : (cs.mm + 0) / 60 = 0 := by omega
  have e2 : (cs.mm + 0) % 60 = cs.mm := by omega
  have e1 : (cs.hh + 0) % 24 = cs.hh := by omega
  have e4 : (cs.hh + 0) / 24 = 0 := by omega
  rw [es, em, e1, e2, e3, e4, monthDay_of_range _ _ _ hm1 hm2, Int.add_zero] at hn
  have hvr := hn.valid ⟨hh1, hh2⟩ ⟨hmm1, hmm2⟩ ⟨hs1, hs2⟩
  have hsr := hn.secNum
  show (Civil.nSec cs.y cs.m cs.d cs.hh cs.mm cs.ss).val = cs
  apply secNum_inj hvr hv
  rw [hsr]; rfl

def cmaxF : Fields := ⟨i64max, 12, 31, 23, 59, 59⟩
def cminF : Fields := ⟨i64min, 1, 1, 0, 0, 0⟩

theorem valid_cmaxF : Valid cmaxF := by decide
theorem valid_cminF : Valid cminF := by decide
theorem secNum_cmaxF : secNum cmaxF = 291061508645168328976559999 := by decide
theorem secNum_cminF : secNum cminF = -291061508645168453310998400 := by decide

theorem cmax_val : (Civil.civilNew .second i64max 12 31 23 59 59).val = cmaxF := civilNew_valid cmaxF valid_cmaxF
theorem cmin_val : (Civil.civilNew .second i64min 1 1 0 0 0).val = cminF := civilNew_valid cminF valid_cminF

/-- a civil second within a day of the int64 range has a year far inside int64 -/
theorem year_bounds (cs : Fields) (hv : Valid cs) (h1 : -9223372036854862208 ≤ secNum cs)
    (h2 : secNum cs ≤ 9223372036854862208) : -300000000000 ≤ cs.y ∧ cs.y ≤ 300000000000 := by
  have vhi : Valid ⟨300000000000, 1, 1, 0, 0, 0⟩ := by decide
  have vlo : Valid ⟨-300000000000, 12, 31, 23, 59, 59⟩ := by decide
  have shi : secNum ⟨300000000000, 1, 1, 0, 0, 0⟩ = 9467085537832780800 := by decide
  have slo : secNum ⟨-300000000000, 12, 31, 23, 59, 59⟩ = -9467085662135596801 := by decide
  constructor
  · exact year_le_of_unitNum_le .second vlo hv trivial trivial (by show secNum _ ≤ secNum _; omega)
  · exact year_le_of_unitNum_le .second hv vhi trivial trivial (by show secNum _ ≤ secNum _; omega)

/-- the offset-adjustment guard of `parse` does not fire -/
theorem guard_false (cs : Fields) (off : Int) (hv : Valid cs) (h1 : -9223372036854862208 ≤ secNum cs)
    (h2 : secNum cs ≤ 9223372036854862208) (ho1 : -86400 < off) (ho2 : off < 86400) :
    (if off < 0 then do
        let lim ← Civil.civilAdd .second cmaxF off
        pure (Civil.lt lim cs)
      else if off > 0 then do
        let lim ← Civil.civilAdd .second cminF off
        pure (Civil.lt cs lim)
      else pure false : Ck Bool).val = false := by
  split
  · obtain ⟨v, _, u⟩ := civilAdd_spec .second cmaxF off valid_cmaxF trivial
    rw [Ck.bindv, Ck.pure_val]
    apply Bool.eq_false_iff.2
    rw [Ne, lt_iff_secNum v hv]
    have u' : secNum (Civil.civilAdd .second cmaxF off).val = secNum cmaxF + off := u
    rw [u', secNum_cmaxF]; omega
  · split
    · obtain ⟨v, _, u⟩ := civilAdd_spec .second cminF off valid_cminF trivial
      rw [Ck.bindv, Ck.pure_val]
      apply Bool.eq_false_iff.2
      rw [Ne, lt_iff_secNum hv v]
      have u' : secNum (Civil.civilAdd .second cminF off).val = secNum cminF + off := u
      rw [u', secNum_cminF]; omega
    · rfl

/-! ### the lookup in the built-in UTC table -/

theorem fixed_offAt (off u : Int) : offAt (fixedZone off) u = off := by
  unfold offAt; rw [fixed_typeAt]; rfl

theorem utc_pre (cs : Fields) (hv : Valid cs) :
    (makeTime (fixedZone 0) 0 cs).val.1.pre = clamp64 (secNum cs) := by
  have h := C02.makeTime (fixedZone 0) 0 cs (fixed_wf 0) (fixed_cols 0) (Lt.fixed_separated 0)
    (Lt.fixed_timesInRange 0) hv (Or.inl rfl)
  simp only at h
  have hshow : ∀ u, shows (fixedZone 0) u (secNum cs) ↔ u = secNum cs := by
    intro u; unfold shows; rw [fixed_offAt]; omega
  split at h
  · obtain ⟨t, ht, hpre, _⟩ := h
    have : t = secNum cs := ((ht (secNum cs)).1 ((hshow _).2 rfl)).symm
    rw [hpre, this]
  · exact absurd ((hshow (secNum cs)).2 rfl) (h.1 _)
  · obtain ⟨i, hi, _, _, hpre, hpost, hlt, hle⟩ := h
    rw [fixed_size] at hi
    rw [Tl.fixed_offBefore 0 i hi] at hpre
    rw [Tl.fixed_offOf 0 i hi] at hpost
    omega

end Cctz.Wr
