/-
  Which path `MakeTime` takes under `SeamOK`, for every valid civil second, in one shape: the
  table answer for the second `cycles z cs` whole 400-year cycles earlier (0 for the years up to
  `lastYear` and for every year of a table that is not extended), moved forward again by
  `TimeLocal`; and where the second moved back lies (`Back`).

  First `Seam.moved`, the saturating forward move of `TimeLocal`: what it does to an int64, that it
  is monotone in the number of cycles and the instant together, and that it is plain clamping on the
  instants that a table with `ShiftRoom` moves.
-/
import Cctz.Proofs.SeamDefs
import Cctz.Proofs.SeamSem
import Cctz.Proofs.TcMake
import Cctz.Proofs.TcShift
import Cctz.Proofs.TableCivil

namespace Cctz.Seam
open Cctz Cctz.Tz Cctz.Spec Cctz.Tc

theorem moved_zero (v : Int) : moved 0 v = v := if_pos (Int.le_refl _)

theorem moved_pos {s : Int} (hs : 1 ≤ s) (v : Int) :
    moved s v = if s > 730692561 ∨ v + s * 12622780800 > i64max then i64max else v + s * 12622780800 :=
  if_neg (by omega)

theorem convOf_moved (k : Kind) (s a b c : Int) :
    convOf ⟨k, moved s a, moved s b, moved s c⟩ = moved s (convOf ⟨k, a, b, c⟩) := by
  unfold convOf
  split <;> rfl

/-- on an int64 the move adds `s` cycles and saturates; beyond `i64max / k400` cycles it answers
max() whatever the instant -/
theorem moved_of_le {s v : Int} (hs : 0 ≤ s) (hv : v ≤ i64max) :
    moved s v = if s > 730692561 then i64max else min i64max (v + s * k400) := by
  unfold moved k400 i64max at *
  split
  · have : s = 0 := by omega
    subst this
    omega
  · split <;> split <;> omega

theorem moved_mono {s1 s2 v1 v2 : Int} (h0 : 0 ≤ s1) (hs : s1 ≤ s2) (h1 : v1 ≤ i64max)
    (h2 : v2 ≤ i64max) (hv : v1 + s1 * k400 ≤ v2 + s2 * k400) : moved s1 v1 ≤ moved s2 v2 := by
  rw [moved_of_le h0 h1, moved_of_le (by omega) h2]
  split <;> split <;> omega

theorem moved_clamp_le {s1 s2 v1 v2 : Int} (h0 : 0 ≤ s1) (hs : s1 ≤ s2)
    (hv : v1 + s1 * k400 ≤ v2 + s2 * k400) : moved s1 (clamp64 v1) ≤ moved s2 (clamp64 v2) := by
  apply moved_mono h0 hs (clamp64_le _) (clamp64_le _)
  have := clamp64_le_add (a := v1) (b := v2) (d := s2 * k400 - s1 * k400) (by unfold k400; omega) (by omega)
  omega

/-- an instant not before `7161147007 − k400` (a cycle before the earliest last entry `ShiftRoom`
allows) moved by `s ≥ 1` cycles: more than `i64max / k400` cycles take it beyond max() anyway -/
theorem moved_eq_min {s v : Int} (hs : 1 ≤ s) (hv : 7161147007 - k400 ≤ v) :
    moved s v = min i64max (v + s * k400) := by
  unfold moved k400 i64max at *
  rw [if_neg (by omega)]
  split <;> omega

theorem moved_eq_clamp {s v : Int} (hs : 1 ≤ s) (hv : 7161147007 - k400 ≤ v) :
    moved s v = clamp64 (v + s * k400) := by
  rw [moved_eq_min hs hv, clamp64_eq]
  unfold k400 i64min i64max at *
  omega

theorem moved_exact {s v : Int} (hs : 0 ≤ s) (hv : 1 ≤ s → 7161147007 - k400 ≤ v)
    (hm : v + s * k400 ≤ i64max) : moved s v = v + s * k400 := by
  rcases Int.lt_or_le s 1 with h | h
  · have : s = 0 := by omega
    subst this
    rw [moved_zero]; omega
  · rw [moved_eq_min h (hv h)]; omega

theorem moved_clamp_eq_clamp {s v : Int} (hs : 1 ≤ s) (hv : 7161147007 - k400 ≤ v) :
    moved s (clamp64 v) = clamp64 (v + s * k400) := by
  rcases Int.lt_or_le i64max v with h | h
  · have e : clamp64 v = i64max := by rw [clamp64_eq]; unfold i64min i64max at *; omega
    rw [e, moved_eq_min hs (by unfold k400 i64max; omega), clamp64_eq]
    unfold k400 i64min i64max at *
    omega
  · rw [clamp64_of_in ⟨by unfold k400 i64min at *; omega, h⟩, moved_eq_clamp hs hv]

end Cctz.Seam

namespace Cctz.Seam
open Cctz Cctz.Tz Cctz.Spec Cctz.Tc

theorem civilSorted_of_sep {z : Zone} (cols : CivilCols z) (sep : Separated z) : CivilSorted z := by
  intro i j hij hj
  rw [lt_iff_secNum (cols.civ i (by omega)).1 (cols.civ j hj).1, (cols.civ i (by omega)).2, (cols.civ j hj).2]
  have h1 := sep_c_mono sep (show i ≤ j - 1 by omega) (by omega)
  have h2 := (sep (j - 1) (by omega)).1
  rw [show j - 1 + 1 = j by omega] at h2
  omega

/-! ### `cycles` -/

theorem cycles_notExt {z : Zone} (hx : ¬ z.extended = true) (cs : Fields) : cycles z cs = 0 := by
  unfold cycles; rw [if_neg hx]

theorem cycles_le {z : Zone} {cs : Fields} {ly : Int} (hly : z.lastYear = some ly) (hy : cs.y ≤ ly) :
    cycles z cs = 0 := by
  unfold cycles
  rw [hly]
  split
  · exact if_neg (by omega)
  · rfl

theorem cycles_shift {z : Zone} {cs : Fields} {ly : Int} (hx : z.extended = true)
    (hly : z.lastYear = some ly) (hy : cs.y > ly) : cycles z cs = (cs.y - ly - 1) / 400 + 1 := by
  unfold cycles
  rw [hx, hly]
  simp only [if_true]
  rw [if_pos hy]

theorem secNum_back {cs : Fields} (vcs : Valid cs) (s : Int) :
    Valid { cs with y := cs.y - 400 * s } ∧
    secNum { cs with y := cs.y - 400 * s } = secNum cs - s * k400 := by
  have h := shiftYear_valid cs vcs (-s)
  rw [show cs.y + 400 * -s = cs.y - 400 * s by omega] at h
  exact ⟨h.1, by rw [h.2]; unfold k400; omega⟩

/-- `s` cycles back from the civil second numbered `x` the table answers: `s = 0` on a table
that is not extended; on an extended one `SeamAt` holds for `lastYear = ly`, the second moved back
lies in a year ≤ ly, and in the years ly − 399 … ly when it was moved at all -/
structure Back (z : Zone) (x s : Int) : Prop where
  nonneg : 0 ≤ s
  notExt : z.extended = false → s = 0
  ext : z.extended = true → ∃ ly, z.lastYear = some ly ∧ SeamAt z ly ∧
    x - s * k400 < yearStart (ly + 1) ∧ (1 ≤ s → yearStart (ly - 399) ≤ x - s * k400)

/-- the two paths of `MakeTime` under `SeamOK` -/
theorem noShift_or_beyond {z : Zone} (so : SeamOK z) (cs : Fields) :
    (NoShift z cs ∧ cycles z cs = 0) ∨
    ∃ ly, z.extended = true ∧ z.lastYear = some ly ∧ SeamAt z ly ∧ cs.y > ly := by
  by_cases hx : z.extended = true
  · obtain ⟨ly, hly, sm⟩ := so hx
    by_cases hy : cs.y > ly
    · exact Or.inr ⟨ly, hx, hly, sm, hy⟩
    · exact Or.inl ⟨Or.inr ⟨ly, hly, by omega⟩, cycles_le hly (by omega)⟩
  · exact Or.inl ⟨Or.inl (by simpa using hx), cycles_notExt hx cs⟩

theorem cycles_back {z : Zone} {cs : Fields} (so : SeamOK z) (vcs : Valid cs) :
    Back z (secNum cs) (cycles z cs) := by
  rcases noShift_or_beyond so cs with ⟨ns, hc⟩ | ⟨ly, hx, hly, sm, hy⟩
  · rw [hc]
    refine ⟨Int.le_refl _, fun _ => rfl, fun hx => ?_⟩
    obtain ⟨ly, hly, sm⟩ := so hx
    refine ⟨ly, hly, sm, Int.not_le.1 fun h => ?_, fun h => by omega⟩
    have := (yearStart_le_iff vcs (ly + 1)).1 (by omega)
    rcases ns with h | ⟨ly', hly', hy⟩
    · rw [hx] at h; cases h
    · rw [hly] at hly'; cases hly'; omega
  · have hc := cycles_shift hx hly hy
    obtain ⟨v', sn'⟩ := secNum_back vcs (cycles z cs)
    have h1 := yearStart_le_iff v' (ly - 399)
    have h2 := yearStart_le_iff v' (ly + 1)
    rw [sn'] at h1 h2
    simp only at h1 h2
    refine ⟨by omega, fun h => (by rw [hx] at h; cases h), fun _ => ⟨ly, hly, sm, ?_, fun _ => h1.2 (by omega)⟩⟩
    exact Int.not_le.1 fun h => by have := h2.1 h; omega

/-- the answer of `MakeTime` on either path: the table outcome for the civil second moved back by
`cycles z cs` whole cycles, every field moved forward again with saturation -/
theorem makeTime_shape (z : Zone) (h : Nat) (cs : Fields) (wf : TableWF z) (cols : CivilCols z)
    (sep : Separated z) (so : SeamOK z) (vcs : Valid cs) :
    ∃ r', Outcome z (secNum cs - cycles z cs * k400) r' ∧
      (makeTime z h cs).val.1 =
        ⟨r'.kind, moved (cycles z cs) r'.pre, moved (cycles z cs) r'.trans, moved (cycles z cs) r'.post⟩ := by
  rcases noShift_or_beyond so cs with ⟨ns, hc⟩ | ⟨ly, hx, hly, sm, hy⟩
  · exact ⟨(makeTime z h cs).val.1, by rw [hc]; simpa using makeTime_outcome z h cs wf cols sep vcs ns,
      by rw [hc]; simp only [moved_zero]⟩
  · -- the `TimeLocal` path: the last entry happens, on both clocks, before the end of year ly
    have hl : z.transitions.size - 1 < z.transitions.size := by have := wf.nonempty; omega
    have hxY : yearStart (ly + 1) ≤ secNum cs := (yearStart_le_iff vcs (ly + 1)).2 (by omega)
    have hp : Civil.lt (trn z (z.transitions.size - 1)).prevCivilSec cs = true := by
      rw [lt_prev cols vcs hl]
      have := sm.lastPrev
      unfold lastT lastOffBefore at this
      omega
    have hlt : Civil.lt cs (trn z (z.transitions.size - 1)).civilSec = false := by
      cases hc : Civil.lt cs (trn z (z.transitions.size - 1)).civilSec with
      | false => rfl
      | true =>
        rw [lt_civ cols vcs hl] at hc
        have := sm.lastCiv
        unfold lastT lastOff at this
        omega
    have hcy := cycles_shift hx hly hy
    have hm := makeTime_shift z h cs ly wf (civilSorted_of_sep cols sep) vcs hx hly hy hp hlt
    rw [← hcy] at hm
    obtain ⟨v', sn'⟩ := secNum_back vcs (cycles z cs)
    have ho := makeTime_outcome z h _ wf cols sep v'
      (Or.inr ⟨ly, hly, by show cs.y - 400 * cycles z cs ≤ ly; omega⟩)
    rw [sn'] at ho
    have hs1 : 1 ≤ cycles z cs := by omega
    exact ⟨_, ho, by rw [hm, timeLocalShift_val, moved_pos hs1, moved_pos hs1, moved_pos hs1]⟩

end Cctz.Seam
