/-
  C01 (rule part) helper proofs: `TransOffset` against the declarative rule-day specification
  (Cctz/Spec/PosixRule.lean), 400-year periodicity of rule days, and the invariant of the year loop
  of `ExtendTransitions`.
-/
import Cctz.Model.Tz
import Cctz.Spec.PosixRule
import Cctz.Spec.TableSem
import Cctz.Proofs.Calendar
import Cctz.Proofs.LdExtend
import Cctz.Proofs.RuMonth

namespace Cctz.Ru
open Cctz Cctz.Spec Cctz.Wd Cctz.Ld
open Cctz.Tz (transOffset extendLoop ExtState rd Transition)

/-! ### the month-offset tables -/

theorem tables0 : ∀ m : Nat, m ≤ 13 → 1 ≤ m →
    Gen.kMonthOffsets0.getD m 0 = (if m = 13 then 365 else daysBeforeMonth 1970 m) := by
  decide

theorem tables1 : ∀ m : Nat, m ≤ 13 → 1 ≤ m →
    Gen.kMonthOffsets1.getD m 0 = (if m = 13 then 366 else daysBeforeMonth 1972 m) := by
  decide

/-! ### 400-year periodicity -/

theorem posixWeekday_add_400_mul (y q : Int) (d : Nat) :
    posixWeekday (y + 400 * q) d = posixWeekday y d := by
  simp only [posixWeekday, weekdayOfDay, dayNum_add_400_mul]; omega

theorem daysBeforeMonth_add_400_mul (y q m : Int) :
    daysBeforeMonth (y + 400 * q) m = daysBeforeMonth y m := by
  simp only [daysBeforeMonth, isLeap_add_400_mul]

theorem ruleDay_add_400_mul (date : Posix.Date) (y q : Int) :
    ruleDay date (y + 400 * q) = ruleDay date y := by
  simp only [ruleDay, julianDay, monthWeekDay, yearLen, isFeb29, monthOfYearDay, isLeap_add_400_mul,
    posixWeekday_add_400_mul, daysBeforeMonth_add_400_mul]

theorem ruleInstant_add_400_mul (date : Posix.Date) (time off : Int) (y q : Int) :
    ruleInstant date time off (y + 400 * q) =
      (ruleInstant date time off y).map (· + q * 12622780800) := by
  simp only [ruleInstant, ruleDay_add_400_mul, dayNum_add_400_mul, Option.map_map]
  congr 1; funext d; simp only [Function.comp]; omega

/-! ### the `J` form: filtering February 29th out of the days of a year -/

theorem julianDay_eq (y n : Int) (h1 : 1 ≤ n) (h2 : n ≤ 365) :
    ∃ d : Nat, julianDay y n = some d ∧ (d : Int) = if !isLeap y || n < 60 then n - 1 else n := by
  unfold julianDay yearLen isFeb29
  cases isLeap y
  · simp only [Bool.false_and, Bool.not_false, Bool.false_eq_true, ↓reduceIte, Bool.true_or]
    rw [List.filter_eq_self.2 (fun _ _ => rfl), List.getElem?_range (by omega)]
    exact ⟨_, rfl, by omega⟩
  · simp only [Bool.true_and, ↓reduceIte, Bool.not_true, Bool.false_or, decide_eq_true_eq]
    rw [filter_range_ne (by decide), List.getElem?_append, List.length_range']
    split
    · rw [List.getElem?_range' (by omega), if_pos (by omega)]; exact ⟨_, rfl, by omega⟩
    · rw [List.getElem?_range' (by omega), if_neg (by omega)]; exact ⟨_, rfl, by omega⟩

/-! ### `TransOffset` -/

theorem tbl_len (leap : Bool) :
    (if leap then Gen.kMonthOffsets1 else Gen.kMonthOffsets0).length = 14 := by
  cases leap <;> rfl

/-- the day count `TransOffset` computes, per date form -/
def modelDays (leap : Bool) (w0 : Int) (date : Posix.Date) : Int :=
  match date.fmt with
  | .J => if !leap || date.a < 60 then date.a - 1 else date.a
  | .N => date.a
  | .M => mDays leap w0 date.a date.b date.c

theorem transOffset_val (leap : Bool) (w0 : Int) (date : Posix.Date) (time : Int)
    (h : date.fmt = .M → 1 ≤ date.a ∧ date.a ≤ 12) :
    (transOffset leap w0 ⟨some date, some time⟩).val = modelDays leap w0 date * 86400 + time := by
  unfold transOffset modelDays
  cases hf : date.fmt
  · have h3 : (getC Gen.kMonthOffsets1 3 0).val = 60 := by decide
    simp only [rd, hf, Ck.bind_val, Ck.pure_val, chk64_val, Gen.kSecsPerDay, h3]
    split <;> simp only [Ck.pure_val, chk64_val]
  · simp only [rd, hf, Ck.bind_val, Ck.pure_val, chk64_val, Gen.kSecsPerDay]
  · have hi : 0 ≤ date.a + b2i (date.b == 5) ∧ date.a + b2i (date.b == 5) <
        ((if leap then Gen.kMonthOffsets1 else Gen.kMonthOffsets0).length : Nat) := by
      rw [tbl_len]; unfold b2i; have := h hf; split <;> omega
    unfold mDays
    simp only [rd, hf, Ck.bind_val, Ck.pure_val, chk64_val, Gen.kSecsPerDay, getC_val_of_lt _ _ _ hi]
    split <;> simp only [Ck.bind_val, chk64_val]

/-- the declaratively selected day is the model's day count, in every year -/
theorem ruleDay_eq_modelDays (date : Posix.Date) (y : Int) (hg : DateInGrammar date) :
    ∃ d : Nat, ruleDay date y = some d ∧
      (d : Int) = modelDays (isLeap y) (posixWeekday y 0) date := by
  unfold DateInGrammar at hg
  unfold ruleDay modelDays
  cases hf : date.fmt <;> rw [hf] at hg <;> simp only
  · exact julianDay_eq y _ hg.1 hg.2
  · refine ⟨date.a.toNat, ?_, by omega⟩
    simp only [zeroBasedDay, hg.1, ↓reduceIte]
  · exact monthWeekDay_eq_mDays y _ _ _ ⟨hg.1, hg.2.1⟩ ⟨hg.2.2.1, hg.2.2.2.1⟩ ⟨hg.2.2.2.2.1, hg.2.2.2.2.2⟩

theorem transOffset_spec (date : Posix.Date) (time : Int) (y : Int) (hg : DateInGrammar date) :
    ∃ d, ruleDay date y = some d ∧
      (transOffset (isLeap y) (posixWeekday y 0) ⟨some date, some time⟩).val = (d : Int) * 86400 + time ∧
      MemSafe (transOffset (isLeap y) (posixWeekday y 0) ⟨some date, some time⟩).flags := by
  obtain ⟨d, h1, h2⟩ := ruleDay_eq_modelDays date y hg
  have hM : date.fmt = .M → 1 ≤ date.a ∧ date.a ≤ 12 := by
    intro hf; unfold DateInGrammar at hg; rw [hf] at hg; exact ⟨hg.1, hg.2.1⟩
  exact ⟨d, h1, by rw [transOffset_val _ _ _ _ hM, h2],
    (Ld.memSafe_iff_safe _).2 (Ld.transOffset_safe _ _ _ _ hM)⟩

/-! ### the year loop of `ExtendTransitions` -/

/-- the two rule instants of year `y`, as `C01Rule.yearPair` lists them -/
def pairList (dstTi stdTi : Nat) (lastTime a b : Int) : List Transition :=
  let dst : Transition := { unixTime := a, typeIndex := dstTi }
  let std : Transition := { unixTime := b, typeIndex := stdTi }
  let (ta, tb) := if a < b then (dst, std) else (std, dst)
  if lastTime < tb.unixTime then (if lastTime < ta.unixTime then [ta, tb] else [tb]) else []

/-- `C01Rule.yearPair` with the rule fields already read -/
def yearPairL (sd : Posix.Date) (st : Int) (ed : Posix.Date) (et : Int) (dstTi stdTi : Nat)
    (lastTime stdOff dstOff : Int) (y : Int) : List Transition :=
  match ruleInstant sd st stdOff y, ruleInstant ed et dstOff y with
  | some a, some b => pairList dstTi stdTi lastTime a b
  | _, _ => []

section
variable (posix : Posix.TimeZone) (dstTi stdTi : Nat) (lastTime stdOff dstOff : Int)

def stepTrans (s : ExtState) : Array Transition :=
  let dstTime := s.jan1Time + (transOffset s.leap s.jan1Weekday posix.dstStart).val - stdOff
  let stdTime := s.jan1Time + (transOffset s.leap s.jan1Weekday posix.dstEnd).val - dstOff
  let dst : Transition := { unixTime := dstTime, typeIndex := dstTi }
  let std : Transition := { unixTime := stdTime, typeIndex := stdTi }
  let p := if dstTime < stdTime then (dst, std) else (std, dst)
  if lastTime < p.2.unixTime then
    (if lastTime < p.1.unixTime then s.trans.push p.1 else s.trans).push p.2
  else s.trans

def stepState (s : ExtState) : ExtState :=
  { trans := stepTrans posix dstTi stdTi lastTime stdOff dstOff s
    lastYear := s.lastYear + 1
    jan1Time := s.jan1Time + (getC Gen.kSecsPerYear (b2i s.leap) 0).val
    jan1Weekday := cmod (s.jan1Weekday + (getC Gen.kDaysPerYear (b2i s.leap) 0).val) 7
    leap := !s.leap && Tz.isLeap (s.lastYear + 1) }

theorem extendLoop_zero (s : ExtState) :
    (extendLoop posix dstTi stdTi lastTime stdOff dstOff 0 s).val =
      { s with trans := stepTrans posix dstTi stdTi lastTime stdOff dstOff s } := by
  rw [extendLoop]; rfl

theorem extendLoop_succ (n : Nat) (s : ExtState) :
    (extendLoop posix dstTi stdTi lastTime stdOff dstOff (n + 1) s).val =
      (extendLoop posix dstTi stdTi lastTime stdOff dstOff n
        (stepState posix dstTi stdTi lastTime stdOff dstOff s)).val := by
  rw [extendLoop]
  simp only [Ck.bind_val, chk64_val, stepState, stepTrans]
  congr 3

theorem secsPerYear_val (l : Bool) :
    (getC Gen.kSecsPerYear (b2i l) 0).val = if l then 31622400 else 31536000 := by
  cases l <;> rfl
theorem daysPerYear_val' (l : Bool) : (getC Gen.kDaysPerYear (b2i l) 0).val = if l then 366 else 365 := by
  cases l <;> rfl

theorem isLeap_succ (y : Int) : (!isLeap y && isLeap (y + 1)) = isLeap (y + 1) := by
  cases h : isLeap y
  · simp
  · cases h2 : isLeap (y + 1)
    · simp
    · rw [isLeap_iff] at h h2; omega

theorem dayNum_succ_year (y : Int) :
    dayNum (y + 1) 1 1 = dayNum y 1 1 + (if isLeap y then 366 else 365) := by
  simp only [dayNum, daysBeforeYear_succ, daysInYear, daysBeforeMonth, cumDays]
  simp

theorem posixWeekday_succ_year (y : Int) :
    cmod (posixWeekday y 0 + (if isLeap y then 366 else 365)) 7 = posixWeekday (y + 1) 0 := by
  rw [cmod_of_nonneg 7 (by have := posixWeekday_range y 0; split <;> omega)]
  simp only [posixWeekday, weekdayOfDay, dayNum_succ_year]
  cases isLeap y <;> simp only [↓reduceIte, Bool.false_eq_true] <;> omega

structure Inv (s : ExtState) (y : Int) : Prop where
  year : s.lastYear = y
  time : s.jan1Time = dayNum y 1 1 * 86400
  wday : s.jan1Weekday = posixWeekday y 0
  leap : s.leap = isLeap y

theorem inv_step {s : ExtState} {y : Int} (h : Inv s y) :
    Inv (stepState posix dstTi stdTi lastTime stdOff dstOff s) (y + 1) := by
  obtain ⟨h1, h2, h3, h4⟩ := h
  refine ⟨?_, ?_, ?_, ?_⟩
  · simp only [stepState, h1]
  · simp only [stepState, secsPerYear_val, h2, h4, dayNum_succ_year]
    split <;> omega
  · simp only [stepState, daysPerYear_val', h3, h4, posixWeekday_succ_year]
  · simp only [stepState, h1, h4]
    rw [show Tz.isLeap (y + 1) = isLeap (y + 1) from isLeapYear_eq _, isLeap_succ]

theorem extendLoop_lastYear (n : Nat) : ∀ (s : ExtState) (y : Int), Inv s y →
    (extendLoop posix dstTi stdTi lastTime stdOff dstOff n s).val.lastYear = y + n := by
  induction n with
  | zero => intro s y h; rw [extendLoop_zero]; simp only [h.year]; omega
  | succ n ih =>
    intro s y h
    rw [extendLoop_succ, ih _ _ (inv_step posix dstTi stdTi lastTime stdOff dstOff h)]
    omega

theorem stepTrans_toList (s : ExtState) :
    (stepTrans posix dstTi stdTi lastTime stdOff dstOff s).toList = s.trans.toList ++
      pairList dstTi stdTi lastTime
        (s.jan1Time + (transOffset s.leap s.jan1Weekday posix.dstStart).val - stdOff)
        (s.jan1Time + (transOffset s.leap s.jan1Weekday posix.dstEnd).val - dstOff) := by
  unfold stepTrans pairList
  simp only
  split <;> split <;> (try split) <;>
    simp only [Array.toList_push, List.append_assoc, List.cons_append, List.nil_append, List.append_nil]

theorem instant_eq (date : Posix.Date) (time off : Int) (y : Int) (hg : DateInGrammar date)
    {s : ExtState} (h : Inv s y) :
    ruleInstant date time off y =
      some (s.jan1Time + (transOffset s.leap s.jan1Weekday ⟨some date, some time⟩).val - off) := by
  obtain ⟨d, h1, h2, _⟩ := transOffset_spec date time y hg
  rw [h.time, h.wday, h.leap, h2, ruleInstant, h1]
  simp only [Option.pure_def, Option.bind_eq_bind, Option.bind_some, Option.map_some, Option.some.injEq]
  omega

theorem flatMap_range_succ {α : Type} (f : Nat → List α) (n : Nat) :
    (List.range (n + 1)).flatMap f = f 0 ++ (List.range n).flatMap fun k => f (k + 1) := by
  rw [List.range_succ_eq_map, List.flatMap_cons, List.flatMap_map]

variable {posix} {sd ed : Posix.Date} {st et : Int} (hs : posix.dstStart = ⟨some sd, some st⟩)
  (he : posix.dstEnd = ⟨some ed, some et⟩) (gs : DateInGrammar sd) (ge : DateInGrammar ed)
include hs he gs ge

theorem stepTrans_yearPair {s : ExtState} {y : Int} (h : Inv s y) :
    (stepTrans posix dstTi stdTi lastTime stdOff dstOff s).toList =
      s.trans.toList ++ yearPairL sd st ed et dstTi stdTi lastTime stdOff dstOff y := by
  rw [stepTrans_toList, yearPairL, instant_eq sd st stdOff y gs h, instant_eq ed et dstOff y ge h, hs, he]

theorem extendLoop_trans_list (n : Nat) : ∀ (s : ExtState) (y : Int), Inv s y →
    (extendLoop posix dstTi stdTi lastTime stdOff dstOff n s).val.trans.toList =
      s.trans.toList ++ (List.range (n + 1)).flatMap fun (k : Nat) =>
        yearPairL sd st ed et dstTi stdTi lastTime stdOff dstOff (y + (k : Int)) := by
  induction n with
  | zero =>
    intro s y h
    rw [extendLoop_zero]
    simp only [stepTrans_yearPair dstTi stdTi lastTime stdOff dstOff hs he gs ge h]
    simp [List.range_succ]
  | succ n ih =>
    intro s y h
    rw [extendLoop_succ, ih _ _ (inv_step posix dstTi stdTi lastTime stdOff dstOff h),
      flatMap_range_succ _ (n + 1)]
    show (stepTrans posix dstTi stdTi lastTime stdOff dstOff s).toList ++ _ = _
    rw [stepTrans_yearPair dstTi stdTi lastTime stdOff dstOff hs he gs ge h, List.append_assoc]
    congr 2
    · simp
    · congr 1; funext k; congr 1; simp only [Int.natCast_add, Int.cast_ofNat_Int]; omega

end

end Cctz.Ru
