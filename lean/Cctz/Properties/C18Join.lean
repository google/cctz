/-
  C18 (continued) — `join_seconds` into a sub-second time point (the `ratio<1, Denom>` overload,
  `Split.joinFine`), and the round trip `split_seconds` → femtoseconds → `join_seconds` that
  `convert`/`format`/`parse` on sub-second time points rest on.

  * `join_fine_floor`   — for a decimal tick (`Denom` divides 10^15) and a femtosecond remainder in
                          `[0, 10^15)`: the tick count is `sec·Denom + ⌊fs / (10^15/Denom)⌋` — the
                          fraction is cut toward the past, never rounded up into the next tick;
  * `join_fine_ok`      — no overflow flag when the two values it forms fit int64;
  * `split_join`        — for every tick count `c` (negative ones included):
                          `join(split(c).sec, femto(split(c).sub)) = c`;
  * `join_fine_monotone`— more femtoseconds never give an earlier tick.
-/
import Cctz.Properties.C18

namespace Cctz.C18Join
open Cctz

def join_fine_floor_statement : Prop :=
  ∀ Denom sec fs : Int, 0 < Denom → 1000000000000000 % Denom = 0 → 0 ≤ fs → fs < 1000000000000000 →
    let r := (Split.joinFine Denom sec fs).val
    r = sec * Denom + fs / (1000000000000000 / Denom) ∧
    sec * Denom ≤ r ∧ r < (sec + 1) * Denom

def join_fine_ok_statement : Prop :=
  ∀ Denom sec fs : Int, 0 < Denom → 1000000000000000 % Denom = 0 → 0 ≤ fs → fs < 1000000000000000 →
    inI64 (sec * Denom) → inI64 (sec * Denom + fs / (1000000000000000 / Denom)) →
    (Split.joinFine Denom sec fs).ok

def split_join_statement : Prop :=
  ∀ D c : Int, 0 < D → 1000000000000000 % D = 0 →
    let p := (Split.splitSeconds 1 D c).val
    (Split.joinFine D p.1 (Split.subToFemto 1 D p.2).val).val = c

def join_fine_monotone_statement : Prop :=
  ∀ Denom sec fs fs' : Int, 0 < Denom → 1000000000000000 % Denom = 0 → 0 ≤ fs → fs ≤ fs' →
    fs' < 1000000000000000 →
    (Split.joinFine Denom sec fs).val ≤ (Split.joinFine Denom sec fs').val

private theorem joinFine_val (Denom sec fs : Int) (hD : 0 < Denom)
    (hdvd : 1000000000000000 % Denom = 0) (h0 : 0 ≤ fs) :
    (Split.joinFine Denom sec fs).val = sec * Denom + fs / (1000000000000000 / Denom) := by
  unfold Split.joinFine
  simp only [Ck.bind_val, chk64_val, if_pos (Split.tick_facts Denom hD hdvd).2.2, cdiv_of_nonneg _ h0]

theorem join_fine_floor : join_fine_floor_statement := by
  intro Denom sec fs hD hdvd h0 h1
  obtain ⟨hm, hk, _⟩ := Split.tick_facts Denom hD hdvd
  simp only [joinFine_val Denom sec fs hD hdvd h0]
  have q0 : 0 ≤ fs / (1000000000000000 / Denom) := Int.ediv_nonneg h0 (by omega)
  have q1 : fs / (1000000000000000 / Denom) < Denom := by
    apply Int.ediv_lt_of_lt_mul hm
    rw [hk]; exact h1
  refine ⟨trivial, by omega, ?_⟩
  rw [Int.add_mul]; omega

theorem join_fine_ok : join_fine_ok_statement := by
  intro Denom sec fs hD hdvd h0 _ ha hb
  unfold Split.joinFine
  simp only [if_pos (Split.tick_facts Denom hD hdvd).2.2, cdiv_of_nonneg _ h0]
  rw [Ck.bind_ok]
  exact ⟨(chk64_ok _).mpr ha, (chk64_ok _).mpr hb⟩

theorem split_join : split_join_statement := by
  intro D c hD hdvd
  obtain ⟨hm, hk, _⟩ := Split.tick_facts D hD hdvd
  simp only [Split.splitSeconds_N1_val D c hD, Split.subToFemto_val D _ hD hdvd]
  have hm0 := Int.emod_nonneg c (by omega : D ≠ 0)
  rw [joinFine_val D _ _ hD hdvd (Int.mul_nonneg hm0 (by omega))]
  rw [Int.mul_ediv_cancel _ (by omega : (1000000000000000 / D) ≠ 0)]
  have := Split.sub_ediv_mul c D
  omega

theorem join_fine_monotone : join_fine_monotone_statement := by
  intro Denom sec fs fs' hD hdvd h0 hle _
  obtain ⟨hm, _, _⟩ := Split.tick_facts Denom hD hdvd
  rw [joinFine_val Denom sec fs hD hdvd h0, joinFine_val Denom sec fs' hD hdvd (by omega)]
  have := Int.ediv_le_ediv hm hle
  omega

/-! satisfiable on non-trivial values: −1.5 s in milliseconds is second −2 plus 500 ms, and joins back -/
example : (Split.splitSeconds 1 1000 (-1500)).val = (-2, 500) ∧
    (Split.subToFemto 1 1000 500).val = 500000000000000 ∧
    (Split.joinFine 1000 (-2) 500000000000000).val = -1500 ∧
    (Split.joinFine 1000 (-2) 500999999999999).val = -1500 := by decide +kernel

end Cctz.C18Join
