/-
  `parse("%s", decimal t)` returns `t`.
-/
import Cctz.Proofs.PaStep

namespace Cctz.Pa
open Cctz Cctz.Bytes Cctz.Format Cctz.Parse Cctz.Spec

theorem ofString_percent_s : ofString "%s" = [37, 115] := by decide +kernel

theorem takeWhile_all {p : UInt8 → Bool} (l : Bytes) (h : ∀ c ∈ l, p c = true) : l.takeWhile p = l := by
  induction l with
  | nil => rfl
  | cons a l ih =>
    rw [List.takeWhile_cons, if_pos (h a (by simp)), ih (fun c hc => h c (by simp [hc]))]

theorem digit_ne_zero (c : UInt8) (h : isDigit c = true) : c ≠ 0 := by
  intro h0; subst h0; simp [isDigit] at h

theorem digit_not_space (c : UInt8) (h : isDigit c = true) : isSpace c = false := by
  rw [isDigit_iff] at h
  unfold isSpace
  simp only [Bool.or_eq_false_iff, Bool.and_eq_false_iff, decide_eq_false_iff_not,
    UInt8.le_iff_toNat_le, ← UInt8.toNat_inj]
  simp; omega

theorem decInt_mem (t : Int) : ∀ c ∈ decInt t, c = 45 ∨ isDigit c = true := by
  unfold decInt
  split
  · intro c hc; simp only [List.mem_cons] at hc
    rcases hc with hc | hc
    · exact Or.inl hc
    · exact Or.inr (decNat_digits _ c hc)
  · intro c hc; exact Or.inr (decNat_digits _ c hc)

theorem cstr_decInt (t : Int) : cstr (decInt t) = decInt t := by
  unfold cstr
  apply takeWhile_all
  intro c hc
  rcases decInt_mem t c hc with h | h
  · subst h; decide
  · have := digit_ne_zero c h; simpa using this

theorem decInt_cons (t : Int) : ∃ c r, decInt t = c :: r ∧ isSpace c = false := by
  have hm := decInt_mem t
  cases hd : decInt t with
  | nil =>
    unfold decInt at hd
    split at hd
    · cases hd
    · exact absurd hd (decNat_ne_nil _)
  | cons c r =>
    refine ⟨c, r, rfl, ?_⟩
    rcases hm c (by rw [hd]; simp) with h | h
    · subst h; decide
    · exact digit_not_space c h

theorem skipSpace_decInt (t : Int) : skipSpace (decInt t) = decInt t := by
  obtain ⟨c, r, h, hs⟩ := decInt_cons t
  rw [h]; unfold skipSpace; rw [List.dropWhile_cons]; simp [hs]

theorem loopEnd_percent_s (sp : Strptime) (t : Int) (ht : inI64 t) :
    loopEnd sp (ofString "%s") (decInt t) =
      { data := some [], fmt := [], percentS := t, sawPercentS := true } := by
  unfold loopEnd
  rw [ofString_percent_s, cstr_decInt, skipSpace_decInt]
  have : ([37, 115] : Bytes).length + (decInt t).length + 2 = ((decInt t).length + 2) + 1 + 1 := by
    simp only [List.length_cons, List.length_nil]; omega
  rw [this, show cstr ([37, 115] : Bytes) = [37, 115] by decide]
  rw [specLoop]
  simp only [List.isEmpty_cons, Bool.false_eq_true, if_false]
  have hp : parseInt64 (decInt t) 0 i64min i64max = some ([], t) := by
    have := parseInt64_format64 t [] ht (by decide)
    rwa [Fm.format64_zero, List.append_nil] at this
  rw [spec_s sp _ rfl, hp]
  rw [specLoop]
  simp

theorem parse_percent_s (sp : Strptime) (z : Tz.Zone) (t : Int) (ht : inI64 t) :
    (parse sp (ofString "%s") (decInt t) z).val.1 = .ok t 0 := by
  have h := loopEnd_percent_s sp t ht
  rw [parse_percentS sp _ _ z [] (by rw [h]) (by decide) (by rw [h])]
  rw [h]

end Cctz.Pa
