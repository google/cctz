/-
  C11 (sub-second time points) — the public templates `next_transition(time_point<D>)` /
  `prev_transition(time_point<D>)` answer for the *instant*, not for its whole second:
  "strictly after" / "strictly before" the instant of `c` ticks of `1/D` s.

  The templates in `include/cctz/time_zone.h` (after the repair F16):
    next: `next_transition(split_seconds(tp).first)`
    prev: `prev_transition(split.first + 1s)` when there is a fraction (and the second is not the
          last representable one), `prev_transition(split.first)` otherwise.
  A change happens at a whole second `T`; it is after the instant iff `c < T·D`, before it iff `T·D < c`.
-/
import Cctz.Model.SubQuery
import Cctz.Spec.TableSem
import Cctz.Properties.C11
import Cctz.Properties.C18

namespace Cctz.C11Sub
open Cctz Cctz.Tz Cctz.Spec Cctz.SubQuery

/-- whole seconds against a sub-second instant: `T` is after the instant iff it is after its floor;
before the instant iff it is before the floor plus one when there is a fraction, before the floor otherwise -/
def order_statement : Prop :=
  ∀ D c T : Int, 0 < D →
    let r := (Split.splitSeconds 1 D c).val
    (c < T * D ↔ r.1 < T) ∧ (T * D < c ↔ T < (if r.2 > 0 then r.1 + 1 else r.1))

/-- next_transition of a sub-second instant: the earliest real change strictly after the instant -/
def nextSub_statement : Prop :=
  ∀ (z : Zone) (D c : Int), TableWF z → 0 < D →
    match (nextSub z D c).val with
    | none => ∀ i, RealChange z i → (trn z i).unixTime * D ≤ c
    | some r => ∃ i, RealChange z i ∧ c < (trn z i).unixTime * D ∧ r = reportOf z i ∧
        ∀ j, RealChange z j → c < (trn z j).unixTime * D → (trn z i).unixTime ≤ (trn z j).unixTime

/-- prev_transition of a sub-second instant: the latest real change strictly before the instant
(the whole second of the instant is not the last representable one) -/
def prevSub_statement : Prop :=
  ∀ (z : Zone) (D c : Int), TableWF z → 0 < D → (Split.splitSeconds 1 D c).val.1 ≠ i64max →
    match (prevSub z D c).val with
    | none => ∀ i, RealChange z i → c ≤ (trn z i).unixTime * D
    | some r => ∃ i, RealChange z i ∧ (trn z i).unixTime * D < c ∧ r = reportOf z i ∧
        ∀ j, RealChange z j → (trn z j).unixTime * D < c → (trn z j).unixTime ≤ (trn z i).unixTime

/-- why the repair F16 was needed: flooring alone misses a change at the floor of an instant with
a fraction (change at second 10, instant 10.5 s: 10 < 10.5 but not 10 < 10) -/
def floor_alone_misses_statement : Prop :=
  ∃ D c T : Int, 0 < D ∧ T * D < c ∧ ¬ T < (Split.splitSeconds 1 D c).val.1

end Cctz.C11Sub

namespace Cctz.C11Sub
open Cctz Cctz.Tz Cctz.Spec Cctz.SubQuery

private theorem arith (D a s T : Int) (hD : 0 < D) (h0 : 0 ≤ s) (h1 : s < D) :
    (a * D + s < T * D ↔ a < T) ∧ (T * D < a * D + s ↔ T < (if s > 0 then a + 1 else a)) := by
  have m1 : ∀ x y : Int, x ≤ y → x * D ≤ y * D := fun x y h => Int.mul_le_mul_of_nonneg_right h (Int.le_of_lt hD)
  have e1 : (a + 1) * D = a * D + D := by rw [Int.add_mul, Int.one_mul]
  have e2 : (T + 1) * D = T * D + D := by rw [Int.add_mul, Int.one_mul]
  refine ⟨⟨fun h => ?_, fun h => ?_⟩, ?_⟩
  · apply Classical.byContradiction; intro hn
    have := m1 T a (by omega); omega
  · have := m1 (a + 1) T (by omega); omega
  · by_cases hs : s > 0
    · rw [if_pos hs]
      refine ⟨fun h => ?_, fun h => ?_⟩
      · apply Classical.byContradiction; intro hn
        have := m1 (a + 1) T (by omega); omega
      · have := m1 T a (by omega); omega
    · rw [if_neg hs]
      have hs0 : s = 0 := by omega
      refine ⟨fun h => ?_, fun h => ?_⟩
      · apply Classical.byContradiction; intro hn
        have := m1 a T (by omega); omega
      · have := m1 (T + 1) a (by omega); omega

theorem order : order_statement := by
  intro D c T hD
  have h := C18.split_floor 1 D c (by omega) hD (Or.inl rfl)
  simp only [Int.mul_one] at h
  obtain ⟨_, h0, h1, h2⟩ := h
  have := arith D (Split.splitSeconds 1 D c).val.1 (Split.splitSeconds 1 D c).val.2 T hD h0 h1
  rw [h2] at this
  exact this

theorem nextSub_val (z : Zone) (D c : Int) :
    (nextSub z D c).val = (nextTransition z (Split.splitSeconds 1 D c).val.1).val := by
  unfold nextSub
  rw [Ck.bind_val]

theorem prevSub_val (z : Zone) (D c : Int) :
    (prevSub z D c).val =
      (prevTransition z (prevArg (Split.splitSeconds 1 D c).val.1 (Split.splitSeconds 1 D c).val.2)).val := by
  unfold prevSub
  rw [Ck.bind_val]

theorem nextSub_spec : nextSub_statement := by
  intro z D c wf hD
  have hn := (C11.nextTransition_spec z (Split.splitSeconds 1 D c).val.1 wf).2
  rw [nextSub_val]
  have ord := fun T => (order D c T hD).1
  cases hv : (nextTransition z (Split.splitSeconds 1 D c).val.1).val with
  | none =>
    rw [hv] at hn
    intro i hi
    have h1 := hn i hi
    have h2 := ord (trn z i).unixTime
    apply Classical.byContradiction; intro hc
    have : (Split.splitSeconds 1 D c).val.1 < (trn z i).unixTime := h2.mp (by omega)
    omega
  | some r =>
    rw [hv] at hn
    obtain ⟨i, hi, hlt, hr, hmin⟩ := hn
    refine ⟨i, hi, (ord _).mpr hlt, hr, ?_⟩
    intro j hj hcj
    exact hmin j hj ((ord _).mp hcj)

theorem prevSub_spec : prevSub_statement := by
  intro z D c wf hD hmax
  rw [prevSub_val]
  have harg : prevArg (Split.splitSeconds 1 D c).val.1 (Split.splitSeconds 1 D c).val.2 =
      (if (Split.splitSeconds 1 D c).val.2 > 0 then (Split.splitSeconds 1 D c).val.1 + 1 else (Split.splitSeconds 1 D c).val.1) := by
    unfold prevArg
    by_cases h : (Split.splitSeconds 1 D c).val.2 > 0
    · rw [if_pos ⟨h, hmax⟩, if_pos h]
    · rw [if_neg (fun hh => h hh.1), if_neg h]
  have ord := fun T => (order D c T hD).2
  rw [harg]
  have hp := (C11.prevTransition_spec z (if (Split.splitSeconds 1 D c).val.2 > 0 then (Split.splitSeconds 1 D c).val.1 + 1 else (Split.splitSeconds 1 D c).val.1) wf).2
  cases hv : (prevTransition z (if (Split.splitSeconds 1 D c).val.2 > 0 then (Split.splitSeconds 1 D c).val.1 + 1 else (Split.splitSeconds 1 D c).val.1)).val with
  | none =>
    rw [hv] at hp
    intro i hi
    have h1 := hp i hi
    apply Classical.byContradiction; intro hc
    have := (ord (trn z i).unixTime).mp (by omega)
    omega
  | some r =>
    rw [hv] at hp
    obtain ⟨i, hi, hlt, hr, hmax'⟩ := hp
    refine ⟨i, hi, (ord _).mpr hlt, hr, ?_⟩
    intro j hj hcj
    exact hmax' j hj ((ord _).mp hcj)

theorem floor_alone_misses : floor_alone_misses_statement :=
  ⟨2, 21, 10, by decide, by decide, by decide⟩

/-- the hypotheses are satisfiable and the templates say something on a concrete table: see
`C11.lean`'s examples for `TableWF`; here the arithmetic side: 10.5 s (D = 2, c = 21) splits into (10, 1),
a change at second 10 is before it, a change at second 11 after it -/
example : (Split.splitSeconds 1 2 21).val = (10, 1) := by decide
example : (Split.splitSeconds 1 2 (-21)).val = (-11, 1) := by decide
example : prevArg 10 1 = 11 ∧ prevArg 10 0 = 10 ∧ prevArg i64max 1 = i64max := by decide

end Cctz.C11Sub
