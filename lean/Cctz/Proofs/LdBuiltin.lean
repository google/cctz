/-
  C12 helper proofs: `ResetToBuiltinUTC` is memory-safe and yields a table with in-range
  indices, for every offset.
-/
import Cctz.Proofs.LdLoad
import Cctz.Proofs.FixedNames

namespace Cctz.Ld
open Cctz Cctz.Wd Cctz.Tz

theorem toName_safe (off : Int) : Safe (Fixed.toName off) := by
  by_cases h0 : off = 0
  · subst h0; exact safe_pure _
  by_cases h1 : off < -86400 ∨ off > 86400
  · unfold Fixed.toName
    have : (off == 0) = false := by simpa using h0
    simp only [this, Bool.false_eq_true, if_false, if_pos h1]
    exact safe_pure _
  · by_cases hp : 0 < off
    · exact safe_of_ok _ (Fixed.toName_pos off hp (by omega)).1
    · exact safe_of_ok _ (Fixed.toName_neg off (by omega) (by omega)).1

theorem toAbbr_safe (off : Int) : Safe (Fixed.toAbbr off) := by
  rw [Fixed.toAbbr_eq]
  exact safe_bind_all (toName_safe off) fun _ => safe_of_ok _ (Fixed.abbrOf_ok _)

theorem builtin_go_spec (abbrs : Bytes) (tt : TransitionType) (l : List Int) :
    Holds (resetToBuiltinUTC.go abbrs tt l)
      (fun r => r.length = l.length ∧ ∀ t ∈ r, t.typeIndex = 0) := by
  induction l with
  | nil => exact holds_pure _ ⟨rfl, fun _ h => by cases h⟩
  | cons t rest ih =>
    unfold resetToBuiltinUTC.go
    refine holds_bind_safe (localTimeTT_safe ..) fun _ => ?_
    refine holds_bind_safe (civilSub_safe ..) fun _ => ?_
    refine holds_bind _ ih fun r hr => ?_
    apply holds_pure
    refine ⟨by simp [hr.1], ?_⟩
    intro x hx
    rw [List.mem_cons] at hx
    rcases hx with rfl | hx
    · rfl
    · exact hr.2 x hx

theorem builtin_spec (off : Int) : Holds (resetToBuiltinUTC off) Spec.TableIdx := by
  unfold resetToBuiltinUTC
  refine holds_bind_safe (toAbbr_safe off) fun abbr => ?_
  extract_lets abbrs tt
  refine holds_bind _ (builtin_go_spec abbrs tt _) fun trs htrs => ?_
  refine holds_bind_safe (localTimeTT_safe ..) fun _ => ?_
  refine holds_bind_safe (localTimeTT_safe ..) fun _ => ?_
  apply holds_pure
  refine tableIdx_of _ ?_ ?_ ?_ ?_
  · show 0 < trs.toArray.size
    rw [List.size_toArray, htrs.1]; decide
  · intro t ht
    have : t ∈ trs := by simpa using ht
    rw [htrs.2 t this]
    show 0 < (#[_] : Array TransitionType).size
    simp
  · show 0 < (#[_] : Array TransitionType).size
    simp
  · intro h; cases h

end Cctz.Ld
