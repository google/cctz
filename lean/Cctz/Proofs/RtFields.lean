/-
  Two fields written by `format` are read back by `parse`:
  `FormatOffset` with mode ":*" followed by `ParseOffset` with separator ':';
  the fraction written by `%E*S` / `%E*f` (trailing zeros stripped) is read back exactly by
  `ParseSubSeconds`.
-/
import Cctz.Proofs.PaPercent

namespace Cctz.Rt
open Cctz Cctz.Bytes Cctz.Format Cctz.Parse Cctz.Spec Cctz.Pa

/-- what `formatOffset off ":*"` writes: sign, hh, ':', mm, ':', ss of the magnitude -/
theorem formatOffset_ext_val (off : Int) :
    (formatOffset off [58, 42]).val =
      [if off < 0 then 45 else 43] ++
        (format02d (cdiv (cdiv (if off < 0 then -off else off) 60) 60)).val ++ [58] ++
        (format02d (cmod (cdiv (if off < 0 then -off else off) 60) 60)).val ++ [58] ++
        (format02d (cmod (if off < 0 then -off else off) 60)).val := by
  unfold formatOffset
  by_cases h : off < 0 <;> simp [h]

theorem parseOffset_hms (sign : UInt8) (hs : sign = 43 ∨ sign = 45) (H M S : Int)
    (hH : 0 ≤ H ∧ H ≤ 23) (hM : 0 ≤ M ∧ M ≤ 59) (hS : 0 ≤ S ∧ S ≤ 59) (rest : Bytes) :
    parseOffset ([sign] ++ (format02d H).val ++ [58] ++ (format02d M).val ++ [58] ++
        (format02d S).val ++ rest) 58 =
      some (rest, if sign = 45 then -((H * 60 + M) * 60 + S) else (H * 60 + M) * 60 + S) := by
  have pH := fun tl => parseInt32_format02d H 0 23 tl hH.1 (by omega) hH.1 hH.2
  have pM := fun tl => parseInt32_format02d M 0 59 tl hM.1 (by omega) hM.1 hM.2
  have pS := parseInt32_format02d S 0 59 rest hS.1 (by omega) hS.1 hS.2
  have lH : (format02d H).val.length = 2 := by rw [format02d_val H hH.1 (by omega)]; rfl
  have lM : (format02d M).val.length = 2 := by rw [format02d_val M hM.1 (by omega)]; rfl
  have lS : (format02d S).val.length = 2 := by rw [format02d_val S hS.1 (by omega)]; rfl
  simp [parseOffset, Gen.parseOff_hours, Gen.parseOff_minutes, Gen.parseOff_seconds, peek, hs, pH, pM, pS,
    lH, lM, lS]

theorem formatOffset_hms (off : Int) (h1 : -86400 < off) (h2 : off < 86400) :
    ∃ (sign : UInt8) (H M S : Int), (sign = 43 ∨ sign = 45) ∧ (0 ≤ H ∧ H ≤ 23) ∧ (0 ≤ M ∧ M ≤ 59) ∧
      (0 ≤ S ∧ S ≤ 59) ∧
      (formatOffset off [58, 42]).val =
        [sign] ++ (format02d H).val ++ [58] ++ (format02d M).val ++ [58] ++ (format02d S).val ∧
      off = if sign = 45 then -((H * 60 + M) * 60 + S) else (H * 60 + M) * 60 + S := by
  rw [formatOffset_ext_val]
  generalize ha : (if off < 0 then -off else off) = a
  have h0 : 0 ≤ a ∧ a < 86400 := by rw [← ha]; split <;> omega
  have e1 : cdiv a 60 = a / 60 := by rw [cdiv_eq _ 60, if_pos h0.1]
  have e2 : (0 : Int) ≤ a / 60 := by omega
  rw [e1, cdiv_eq _ 60, cmod_eq _ 60, cmod_eq _ 60,
    if_pos e2, if_pos e2, if_pos h0.1]
  refine ⟨_, a / 60 / 60, a / 60 % 60, a % 60, ?_, by omega, by omega, by omega, rfl, ?_⟩
  · split
    · exact Or.inr rfl
    · exact Or.inl rfl
  · by_cases hn : off < 0
    · rw [if_pos hn] at ha; rw [if_pos hn, if_pos rfl]; omega
    · rw [if_neg hn] at ha; rw [if_neg hn, if_neg (by decide)]; omega

theorem parseOffset_formatOffset (off : Int) (rest : Bytes) (h1 : -86400 < off) (h2 : off < 86400) :
    parseOffset ((formatOffset off [58, 42]).val ++ rest) 58 = some (rest, off) := by
  obtain ⟨sign, H, M, S, hs, hH, hM, hS, e, ho⟩ := formatOffset_hms off h1 h2
  rw [e, parseOffset_hms sign hs H M S hH hM hS rest, ← ho]


/-- stripping trailing '0's removes a block of '0's -/
theorem strip_spec (l : Bytes) :
    ∃ j, l = (l.reverse.dropWhile (· = 48)).reverse ++ List.replicate j 48 := by
  refine ⟨(l.reverse.takeWhile (· = 48)).length, ?_⟩
  have h1 : l.reverse = l.reverse.takeWhile (· = 48) ++ l.reverse.dropWhile (· = 48) :=
    List.takeWhile_append_dropWhile.symm
  have h2 : l.reverse.takeWhile (· = 48) = List.replicate (l.reverse.takeWhile (· = 48)).length 48 := by
    rw [List.eq_replicate_iff]
    refine ⟨rfl, fun b hb => ?_⟩
    have := mem_takeWhile (p := (· = 48)) l.reverse b hb
    simpa using this
  have h3 := congrArg List.reverse h1
  rw [List.reverse_reverse, List.reverse_append] at h3
  rw [h2, List.reverse_replicate] at h3
  exact h3

theorem pow15_nat : (10 : Nat) ^ 15 = 1000000000000000 := by decide

theorem decPad15 (n : Nat) (hn : n < 1000000000000000) :
    (decPad 15 n).length = 15 ∧ (∀ c ∈ decPad 15 n, isDigit c = true) ∧ nv 0 (decPad 15 n) = n := by
  have hl : (decNat n).length ≤ 15 := (decNat_length_le n 15 (by decide)).mpr (by rw [pow15_nat]; exact hn)
  unfold decPad
  refine ⟨by simp; omega, ?_, ?_⟩
  · intro c hc
    simp only [List.mem_append, List.mem_replicate] at hc
    rcases hc with ⟨_, hc⟩ | hc
    · subst hc; decide
    · exact decNat_digits n c hc
  · rw [nv_append, nv_replicate_zero, Int.zero_mul, nv_decNat]

theorem parseSubSeconds_fracStar (fs : Int) (rest : Bytes) (h0 : 0 < fs) (h1 : fs < 1000000000000000)
    (hrest : isDigit (rest.headD 0) = false) :
    parseSubSeconds (fracStar fs ++ rest) = some (rest, fs) := by
  obtain ⟨hlen, hdig, hval⟩ := decPad15 fs.toNat (by omega)
  obtain ⟨j, hj⟩ := strip_spec (decPad 15 fs.toNat)
  unfold fracStar
  generalize hS : ((decPad 15 fs.toNat).reverse.dropWhile (· = 48)).reverse = S at hj ⊢
  generalize decPad 15 fs.toNat = P at hlen hdig hval hj
  subst hj
  have hSd : ∀ c ∈ S, isDigit c = true := fun c hc => hdig c (by simp [hc])
  have hSl : S.length + j = 15 := by simpa using hlen
  rw [nv_append, nv_replicate_zero] at hval
  have hne : S ≠ [] := by
    intro h; subst h; simp at hval; omega
  obtain ⟨t1, t2⟩ := takeWhile_append_of_all (p := isDigit) S rest hSd hrest
  unfold parseSubSeconds
  simp only [t1, t2]
  have hemp : S.isEmpty = false := by cases S with
    | nil => exact absurd rfl hne
    | cons => rfl
  simp only [hemp, Bool.false_eq_true, if_false]
  have htake : S.take 15 = S := List.take_of_length_le (by omega)
  rw [htake, kExp10_getD _ (by omega), show 15 - S.length = j by omega]
  have : (S.foldl (fun a c => a * 10 + ((c.toNat : Int) - 48)) 0) = nv 0 S := rfl
  rw [this, hval]
  congr 2; omega

end Cctz.Rt
