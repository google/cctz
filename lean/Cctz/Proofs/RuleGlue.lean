/-
  C01 gluing: lookup beyond the recorded transitions of an extended table follows the footer rule at
  the instant itself, under the regularity assumption `Regular` (the recorded part ends before the
  later rule instant of year y0+1 and before every rule instant of the years y0+2 … y0+401).
  Stated over the raw rule fields; `Cctz/Properties/C01Glue.lean` restates it with its vocabulary.
-/
import Cctz.Model.Tz
import Cctz.Spec.PosixRule
import Cctz.Spec.TableSem
import Cctz.Properties.C01
import Cctz.Properties.C01Rule
import Cctz.Proofs.RgOrder
import Cctz.Proofs.RgTable
import Cctz.Proofs.RgCounter

namespace Cctz.Rg
open Cctz Cctz.Tz Cctz.Spec

/-! ### total instant functions -/

/-- the rule instant of year `y` (a date in the grammar selects a day in every year) -/
def inst (d : Posix.Date) (time off : Int) (y : Int) : Int := (ruleInstant d time off y).getD 0

theorem ruleInstant_some (d : Posix.Date) (time off : Int) (y : Int) (hg : DateInGrammar d) :
    ruleInstant d time off y = some (inst d time off y) := by
  obtain ⟨n, h, _⟩ := Ru.ruleDay_eq_modelDays d y hg
  unfold inst ruleInstant
  rw [h]; rfl

theorem inst_per (d : Posix.Date) (time off : Int) (hg : DateInGrammar d) : Per (inst d time off) := by
  intro y j
  have h := Ru.ruleInstant_add_400_mul d time off y j
  rw [ruleInstant_some d time off y hg, ruleInstant_some d time off (y + 400 * j) hg] at h
  simpa using h

/-! ### the extra assumption -/

/-- Regularity of the recorded part against the rule (all that the full statement lacks):
 1. at least one rule instant of year `y0+1` is later than the last recorded transition `L`
    — otherwise the 400-year window `[last - k400, last)` that `BreakTime` maps into starts inside
    the recorded part and the recorded types, not the rule, answer for the instants between the
    later rule instant of year `y0+401` and `L + k400`;
 2. every rule instant of the years `y0+2 … y0+401` is later than `L` — otherwise a rule instant
    of a year beyond the tabulated ones (its copy 400 years earlier was dropped) can fall inside
    the tabulated range without being in the table.
 Both hold whenever `y0` is the civil year of `L` (as in `ExtendTransitions`), offsets are below a
 day and rule times within the ±167 h of the grammar, except that 1. fails when the recorded part
 ends in the last days of year `y0` after both (negative-time) rule instants of year `y0+1`. -/
def Regular (sd : Posix.Date) (st : Int) (ed : Posix.Date) (et stdOff dstOff y0 L : Int) : Prop :=
  (∃ a, (ruleInstant sd st stdOff (y0 + 1) = some a ∨ ruleInstant ed et dstOff (y0 + 1) = some a) ∧
    L < a) ∧
  (∀ y a, y0 + 2 ≤ y → y ≤ y0 + 401 →
    (ruleInstant sd st stdOff y = some a ∨ ruleInstant ed et dstOff y = some a) → L < a)

theorem reg_of_regular {sd ed : Posix.Date} {st et stdOff dstOff y0 L : Int}
    (gs : DateInGrammar sd) (ge : DateInGrammar ed)
    (h : Regular sd st ed et stdOff dstOff y0 L) :
    Reg (inst sd st stdOff) (inst ed et dstOff) y0 L := by
  obtain ⟨⟨a, ha, haL⟩, h2⟩ := h
  refine ⟨?_, ?_⟩
  · rw [ruleInstant_some _ _ _ _ gs, ruleInstant_some _ _ _ _ ge] at ha
    rcases ha with e | e
    · left; injection e with e; omega
    · right; injection e with e; omega
  · intro y h1 h2'
    exact ⟨h2 y _ h1 h2' (Or.inl (ruleInstant_some _ _ _ _ gs)),
      h2 y _ h1 h2' (Or.inr (ruleInstant_some _ _ _ _ ge))⟩

/-! ### a sufficient condition in the terms of `ExtendTransitions` -/

theorem inst_ge (d : Posix.Date) (time off : Int) (y : Int) (hg : DateInGrammar d) :
    dayNum y 1 1 * 86400 + time - off ≤ inst d time off y := by
  obtain ⟨n, h, _⟩ := Ru.ruleDay_eq_modelDays d y hg
  unfold inst ruleInstant
  rw [h]
  show _ ≤ (dayNum y 1 1 + (n : Int)) * 86400 + time - off
  omega

/-- the instant through the day count `TransOffset` computes -/
theorem inst_model (d : Posix.Date) (time off : Int) (y : Int) (hg : DateInGrammar d) :
    inst d time off y =
      (dayNum y 1 1 + Ru.modelDays (Spec.isLeap y) (posixWeekday y 0) d) * 86400 + time - off := by
  obtain ⟨n, h, hn⟩ := Ru.ruleDay_eq_modelDays d y hg
  unfold inst ruleInstant
  rw [h, ← hn]; rfl

/-- clause 2 of `Regular` holds when the last recorded transition lies, in the local time `offL` of
its type, before the end of civil year `y0` and the rule times net of the offset differences are
less than 365 days negative -/
theorem regular2_of_civilYear {sd ed : Posix.Date} {st et stdOff dstOff y0 L : Int} (offL : Int)
    (gs : DateInGrammar sd) (ge : DateInGrammar ed)
    (hy : L + offL < dayNum (y0 + 1) 1 1 * 86400)
    (hs : -31536000 ≤ st - stdOff + offL) (he : -31536000 ≤ et - dstOff + offL) :
    ∀ y a, y0 + 2 ≤ y → y ≤ y0 + 401 →
      (ruleInstant sd st stdOff y = some a ∨ ruleInstant ed et dstOff y = some a) → L < a := by
  intro y a h2 _ ha
  -- January 1st of year `y` is at least 365 days after that of year `y0 + 1`
  have hj := daysBeforeYear_lt (y0 + 1) y (by omega)
  have := daysInYear_cases (y0 + 1)
  rw [← dayNum_jan1, ← dayNum_jan1] at hj
  have h1 := inst_ge sd st stdOff y gs
  have h2 := inst_ge ed et dstOff y ge
  rw [ruleInstant_some _ _ _ _ gs, ruleInstant_some _ _ _ _ ge, Option.some.injEq,
    Option.some.injEq] at ha
  omega

/-- `Regular` holds when the last recorded transition lies, in the local time `offL` of its type,
before the end of civil year `y0` (`ExtendTransitions` takes `y0` to be that civil year), the rule
times net of the offset differences are less than 365 days negative, and at least one of them is
not negative -/
theorem regular_of_civilYear {sd ed : Posix.Date} {st et stdOff dstOff y0 L : Int} (offL : Int)
    (gs : DateInGrammar sd) (ge : DateInGrammar ed)
    (hy : L + offL < dayNum (y0 + 1) 1 1 * 86400)
    (hs : -31536000 ≤ st - stdOff + offL) (he : -31536000 ≤ et - dstOff + offL)
    (h1 : 0 ≤ st - stdOff + offL ∨ 0 ≤ et - dstOff + offL) :
    Regular sd st ed et stdOff dstOff y0 L := by
  have hs1 := inst_ge sd st stdOff (y0 + 1) gs
  have he1 := inst_ge ed et dstOff (y0 + 1) ge
  refine ⟨?_, regular2_of_civilYear offL gs ge hy hs he⟩
  rcases h1 with h1 | h1
  · exact ⟨_, Or.inl (ruleInstant_some _ _ _ _ gs), by omega⟩
  · exact ⟨_, Or.inr (ruleInstant_some _ _ _ _ ge), by omega⟩

/-! ### the rule's verdict, over instant functions -/

theorem IsK.shift {s e : Int → Int} (ps : Per s) (pe : Per e) {y a : Int} {kind : Bool} (j : Int)
    (h : IsK s e y a kind) : IsK s e (y + 400 * j) (a + j * 12622780800) kind := by
  rcases h with h | h
  · left; rw [ps, h.2]; exact ⟨h.1, rfl⟩
  · right; rw [pe, h.2]; exact ⟨h.1, rfl⟩

/-- in a chain an instant has one kind only -/
theorem IsK.kind_eq {s e : Int → Int} (c : Chain s e) {y y' a : Int} {k k' : Bool}
    (h : IsK s e y a k) (h' : IsK s e y' a k') : k = k' := by
  have hy := c.year_eq h.inst h'.inst
  subst hy
  have := c.ne y
  rcases h with ⟨h1, h2⟩ | ⟨h1, h2⟩ <;> rcases h' with ⟨h3, h4⟩ | ⟨h3, h4⟩
  · rw [h1, h3]
  · omega
  · omega
  · rw [h1, h3]

/-- `C01Glue.RuleKindAt` over instant functions -/
def KindAt (s e : Int → Int) (y0 L t : Int) (k : Option Bool) : Prop :=
  match k with
  | none => ∀ y a kind, y0 ≤ y → IsK s e y a kind → ¬ (L < a ∧ a ≤ t)
  | some kind => ∃ y a, y0 ≤ y ∧ IsK s e y a kind ∧ L < a ∧ a ≤ t ∧
      ∀ y' b kind', y0 ≤ y' → IsK s e y' b kind' → b ≤ t → b ≤ a ∧ (b = a → kind' = kind)

/-- the type a verdict stands for -/
def tiOf (rec : List Transition) (dstTi stdTi : Nat) : Option Bool → Nat
  | none => lastType rec
  | some true => dstTi
  | some false => stdTi

/-! ### the table's verdict at an instant of the tabulated range -/

section
variable (z : Zone) (wf : TableWF z) (rec : List Transition) (hrec : rec ≠ [])
  (s e : Int → Int) (dstTi stdTi : Nat) (y0 : Int) (c : Chain s e)
  (gen : List Transition) (hl : z.transitions.toList = rec ++ gen)
  (hkeys : gen.map key = (genList s e dstTi stdTi (lastTime rec) y0).map key)
include wf hrec c hl hkeys

/-- inside the tabulated range (from the last recorded entry up to the later instant of year
y0+401) the table's type is the rule's verdict over the years from `y0` on -/
theorem table_verdict (t : Int) (ht : lastTime rec ≤ t) (htH : t < s (y0 + 401) ∨ t < e (y0 + 401)) :
    ∃ k, KindAt s e y0 (lastTime rec) t k ∧ typeAt z t = tiOf rec dstTi stdTi k := by
  -- instants at or before t belong to tabulated years
  have hyr : ∀ y a, Inst s e y a → a ≤ t → y ≤ y0 + 401 := by
    intro y a ha hat
    by_cases hy : y0 + 401 < y
    · have h1 := c.lt hy (Or.inl rfl) ha
      have h2 := c.lt hy (Or.inr rfl) ha
      omega
    · omega
  rcases typeAt_split z wf rec _ hrec hl t ht with ⟨hno, hty⟩ | ⟨x, hx, hxt, hmax, hty⟩
  · refine ⟨none, ?_, hty⟩
    intro y a kind hy hk hc
    obtain ⟨x, hx, hxa⟩ := gen_of_inst hkeys hy (hyr y a hk.inst hc.2) hk.inst hc.1
    exact hno ⟨x, hx, by omega⟩
  · obtain ⟨y, kind, hy1, _, hk, hxL, hti⟩ := gen_kind hkeys hx
    refine ⟨some kind, ⟨y, x.unixTime, hy1, hk, hxL, hxt, ?_⟩, ?_⟩
    · intro y' b kind' hy' hk' hbt
      have hle : b ≤ x.unixTime := by
        by_cases hbL : lastTime rec < b
        · obtain ⟨x', hx', hx'b⟩ := gen_of_inst hkeys hy' (hyr y' b hk'.inst hbt) hk'.inst hbL
          have := hmax x' hx' (by omega)
          omega
        · omega
      refine ⟨hle, ?_⟩
      intro hb
      subst hb
      exact IsK.kind_eq c hk' hk
    · rw [hty, hti]; cases kind <;> rfl

/-- the last entry of the table is the later instant of year y0+401 (when that is after the
recorded part) -/
theorem last_time_eq
    (hL : lastTime rec < max (s (y0 + 401)) (e (y0 + 401))) :
    timeOf z (z.transitions.size - 1) = max (s (y0 + 401)) (e (y0 + 401)) := by
  obtain ⟨pr, _, _⟩ := pairwise_split z wf hl
  have hI : Inst s e (y0 + 401) (max (s (y0 + 401)) (e (y0 + 401))) := by
    unfold Inst; omega
  obtain ⟨x, hx, hxa⟩ := gen_of_inst hkeys (y := y0 + 401) (by omega) (by omega) hI hL
  rw [← hxa]
  apply last_of_max z wf x (by rw [hl]; exact List.mem_append_right _ hx)
  intro x' hx'
  rw [hl] at hx'
  rcases List.mem_append.1 hx' with hm | hm
  · have h1 := le_getLast rec hrec pr x' hm
    rw [← lastTime_eq rec hrec] at h1
    omega
  · obtain ⟨y, kind, _, hy2, hk, _, _⟩ := gen_kind hkeys hm
    by_cases hy : y = y0 + 401
    · subst hy
      rcases hk.inst with e1 | e1 <;> omega
    · have := c.lt (show y < y0 + 401 by omega) hk.inst (Or.inl rfl)
      omega

end

/-! ### the core theorem -/

/-- the rule's verdict repeats with the 400-year cycle from the later instant of year `y0+1` on:
what moves back into the years before `y0` is earlier than that instant -/
theorem KindAt.shift {s e : Int → Int} (ps : Per s) (pe : Per e) (c : Chain s e) {y0 L t q : Int}
    {kind : Bool} (hq : 0 ≤ q) (hs : s (y0 + 1) ≤ t) (he : e (y0 + 1) ≤ t)
    (h : KindAt s e y0 L t (some kind)) : KindAt s e y0 L (t + q * 12622780800) (some kind) := by
  obtain ⟨y, a, hy, hka, haL, hat, huniv⟩ := h
  have hq' : 0 ≤ q * 12622780800 := Int.mul_nonneg hq (by decide)
  refine ⟨y + 400 * q, a + q * 12622780800, by omega, hka.shift ps pe q, by omega, by omega, ?_⟩
  intro y' b kind' hy' hkb hbt
  have hkb' := hkb.shift ps pe (-q)
  rw [Int.neg_mul] at hkb'
  have key : b + -(q * 12622780800) ≤ a ∧ (b + -(q * 12622780800) = a → kind' = kind) := by
    by_cases hw : y0 ≤ y' + 400 * -q
    · exact huniv _ _ kind' hw hkb' (by omega)
    · have h1 := c.lt (show y' + 400 * -q < y0 + 1 by omega) hkb'.inst (Or.inl rfl)
      have h2 := (huniv (y0 + 1) _ true (by omega) (Or.inl ⟨rfl, rfl⟩) hs).1
      exact ⟨by omega, by omega⟩
  exact ⟨by omega, fun hb => key.2 (by omega)⟩

theorem glue_core (z : Zone) (rec : List Transition) (s e : Int → Int) (ps : Per s) (pe : Per e)
    (y0 : Int) (dstTi stdTi h : Nat) (t : Int)
    (wf : TableWF z) (cc : CivilCols z) (hrec : rec ≠ []) (hext : z.extended = true)
    (gen : List Transition) (hl : z.transitions.toList = rec ++ gen)
    (hkeys : gen.map key = (genList s e dstTi stdTi (lastTime rec) y0).map key)
    (rg : Reg s e y0 (lastTime rec)) (ht : lastTime rec ≤ t) :
    ∃ k, KindAt s e y0 (lastTime rec) t k ∧
      (breakTime z h t).val.1.offset = (typ z (tiOf rec dstTi stdTi k)).utcOffset ∧
      (breakTime z h t).val.1.isDst = (typ z (tiOf rec dstTi stdTi k)).isDst := by
  have pw := pairwise_split z wf hl
  have so := sorted_of_genList s e dstTi stdTi (lastTime rec) y0 (pairwise_of_keys hkeys pw.2.1)
  have c := chain_of_sorted ps pe so rg
  have hr401 := rg.r2 (y0 + 401) (by omega) (by omega)
  have hlast := last_time_eq z wf rec hrec s e dstTi stdTi y0 c gen hl hkeys (by omega)
  by_cases hcase : t < timeOf z (z.transitions.size - 1)
  · -- inside the table
    obtain ⟨_, _, ho, hd, _⟩ := C01.breakTime_table z h t wf cc (Or.inr hcase)
    obtain ⟨k, hk, hty⟩ := table_verdict z wf rec hrec s e dstTi stdTi y0 c gen hl hkeys t ht
      (by omega)
    exact ⟨k, hk, by rw [ho]; unfold offAt; rw [hty], by rw [hd, hty]⟩
  · -- beyond the table: `BreakTime` looks up `t'`, whole 400-year cycles before `t`, in the window
    -- that starts at the later instant of year y0+1, which is after the recorded part
    obtain ⟨hlt, hlo, _, _, ho, hd, _⟩ := C01.breakTime_shift z h t wf cc hext (by omega)
    generalize hq : (t - timeOf z (z.transitions.size - 1)) / 12622780800 + 1 = q at hlt hlo ho hd
    have hq0 : 0 ≤ (t - timeOf z (z.transitions.size - 1)) / 12622780800 :=
      Int.ediv_nonneg (by omega) (by decide)
    have hq' : 0 < q * 12622780800 := Int.mul_pos (by omega) (by decide)
    generalize ht' : t - q * 12622780800 = t' at hlt hlo ho hd
    have hs1 := ps (y0 + 1) 1
    have he1 := pe (y0 + 1) 1
    rw [show y0 + 1 + 400 * 1 = y0 + 401 by omega] at hs1 he1
    have hwin : s (y0 + 1) ≤ t' ∧ e (y0 + 1) ≤ t' := by omega
    have hup : t' < s (y0 + 401) ∨ t' < e (y0 + 401) := by omega
    have hy1 : y0 ≤ y0 + 1 := by omega
    clear hlast hlo hlt hs1 he1 hr401
    obtain ⟨k, hk, hty⟩ := table_verdict z wf rec hrec s e dstTi stdTi y0 c gen hl hkeys t'
      (by have := rg.r1; omega) hup
    cases k with
    | none =>
      exfalso
      rcases rg.r1 with h1 | h1
      · exact hk (y0 + 1) _ true hy1 (Or.inl ⟨rfl, rfl⟩) ⟨h1, hwin.1⟩
      · exact hk (y0 + 1) _ false hy1 (Or.inr ⟨rfl, rfl⟩) ⟨h1, hwin.2⟩
    | some kind =>
      have hk' := hk.shift ps pe c (q := q) (by omega) hwin.1 hwin.2
      rw [show t' + q * 12622780800 = t by omega] at hk'
      exact ⟨some kind, hk', by rw [ho]; unfold offAt; rw [hty], by rw [hd, hty]⟩

end Cctz.Rg
