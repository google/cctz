/-
  Helper lemmas for C15 (fixed-offset zone names).
-/
import Cctz.Model.Tz
import Cctz.Model.Split
import Cctz.Model.Fixed
import Cctz.Proofs.IntLemmas

namespace Cctz.Fixed
open Cctz Cctz.Bytes

theorem ofString_UTC : ofString "UTC" = [85, 84, 67] := by decide +kernel
theorem ofString_UTC0 : ofString "UTC0" = [85, 84, 67, 48] := by decide +kernel
theorem ofString_prefix : ofString "Fixed/UTC" = [70, 105, 120, 101, 100, 47, 85, 84, 67] := by
  decide +kernel
theorem prefixBytes_eq : prefixBytes = [70, 105, 120, 101, 100, 47, 85, 84, 67] := by decide

theorem digitChar_ok (i : Int) (h : 0 ≤ i ∧ i ≤ 9) :
    (digitChar i).ok ∧ (digitChar i).val = UInt8.ofNat (48 + i.toNat) := by
  unfold digitChar; rw [if_pos h]; exact ⟨rfl, rfl⟩

/-- two ASCII digits (same as `C15.twoDigits`) -/
def td (n : Int) : Bytes := [UInt8.ofNat (48 + (n / 10).toNat), UInt8.ofNat (48 + (n % 10).toNat)]

theorem format02d_spec (v : Int) (h0 : 0 ≤ v) (h1 : v ≤ 99) :
    (format02d v).ok ∧ (format02d v).val = td v := by
  have e1 : cmod (cdiv v 10) 10 = v / 10 := by
    rw [cdiv_eq, cmod_eq]; simp only [h0, if_true]
    split <;> omega
  have e2 : cmod v 10 = v % 10 := by
    rw [cmod_eq]; simp only [h0, if_true]
  have a := digitChar_ok (v / 10) (by omega)
  have b := digitChar_ok (v % 10) (by omega)
  unfold format02d td
  simp only [Ck.bind_ok, Ck.bind_val, Ck.pure_val, Ck.pure_ok, e1, e2, a, b, and_self]

/-- `toName` after the sign has been split off: hours, minutes, seconds of `60 * mins + secs` -/
def nameOf (neg : Bool) (mins secs : Int) : Ck Bytes := do
  let h ← format02d (cdiv mins 60)
  let m ← format02d (cmod mins 60)
  let s ← format02d secs
  pure (prefixBytes ++ [if neg then 45 else 43] ++ h ++ [58] ++ m ++ [58] ++ s)

theorem nameOf_spec (neg : Bool) (A : Int) (h0 : 0 ≤ A) (h1 : A ≤ 86400) :
    (nameOf neg (A / 60) (A % 60)).ok ∧ (nameOf neg (A / 60) (A % 60)).val =
      prefixBytes ++ [if neg then 45 else 43] ++ td (A / 3600) ++ [58] ++ td (A / 60 % 60) ++ [58] ++
        td (A % 60) := by
  have e3 : cdiv (A / 60) 60 = A / 3600 := by rw [cdiv_eq]; split <;> omega
  have e4 : cmod (A / 60) 60 = A / 60 % 60 := by rw [cmod_eq]; split <;> omega
  have fh := format02d_spec (A / 3600) (by omega) (by omega)
  have fm := format02d_spec (A / 60 % 60) (by omega) (by omega)
  have fs := format02d_spec (A % 60) (by omega) (by omega)
  unfold nameOf
  simp only [e3, e4, Ck.bind_ok, Ck.bind_val, Ck.pure_val, Ck.pure_ok, fh, fm, fs, and_self]

theorem toName_pos (off : Int) (h0 : 0 < off) (h1 : off ≤ 86400) :
    (toName off).ok ∧ (toName off).val =
      prefixBytes ++ [43] ++ td (off / 3600) ++ [58] ++ td (off / 60 % 60) ++ [58] ++ td (off % 60) := by
  have e1 : cdiv off 60 = off / 60 := by rw [cdiv_eq, if_pos (by omega)]
  have e2 : cmod off 60 = off % 60 := by rw [cmod_eq, if_pos (by omega)]
  have n0 : (off == 0) = false := by simp; omega
  have n1 : ¬ (off < -86400 ∨ off > 86400) := by omega
  have n2 : ¬ off < 0 := by omega
  have e : toName off = nameOf false (off / 60) (off % 60) := by
    unfold toName nameOf
    simp only [n0, n1, n2, e1, e2, decide_false, Bool.false_eq_true, if_false]
  rw [e]
  exact nameOf_spec false off (by omega) h1

/-- for a negative offset the code negates the truncated quotient and remainder -/
theorem toName_neg (off : Int) (h0 : off < 0) (h1 : -86400 ≤ off) :
    (toName off).ok ∧ (toName off).val =
      prefixBytes ++ [45] ++ td ((-off) / 3600) ++ [58] ++ td ((-off) / 60 % 60) ++ [58] ++ td ((-off) % 60) := by
  have e1 : cdiv off 60 = -((-off) / 60) := by rw [cdiv_eq, if_neg (by omega)]
  have e2 : cmod off 60 = -((-off) % 60) := by rw [cmod_eq, if_neg (by omega)]
  have n0 : (off == 0) = false := by simp; omega
  have n1 : ¬ (off < -86400 ∨ off > 86400) := by omega
  have n3 : ¬ (-((-off) % 60) > 0) := by omega
  have e : toName off = nameOf true ((-off) / 60) ((-off) % 60) := by
    unfold toName nameOf
    simp only [n0, n1, h0, n3, e1, e2, decide_true, Bool.false_eq_true, if_false, if_true, Int.neg_neg]
  rw [e]
  exact nameOf_spec true (-off) (by omega) (by omega)

/-- the part of `toAbbr` after the call of `toName` -/
def abbrOf (name : Bytes) : Ck Bytes :=
  let pl := prefixBytes.length
  if name.length = pl + 9 then
    let a := name.drop pl
    let a := a.take 6 ++ a.drop 7
    let a := a.take 3 ++ a.drop 4
    if a.getD 5 0 = 48 ∧ a.getD 6 0 = 48 then
      let a := a.take 5
      if a.getD 3 0 = 48 ∧ a.getD 4 0 = 48 then pure (a.take 3) else pure a
    else pure a
  else pure name

theorem toAbbr_eq (off : Int) : toAbbr off = toName off >>= abbrOf := rfl

theorem abbrOf_ok (name : Bytes) : (abbrOf name).ok := by
  unfold abbrOf
  simp only []
  split
  · split
    · split <;> exact Ck.pure_ok _
    · exact Ck.pure_ok _
  · exact Ck.pure_ok _

theorem abbrOf_shape (sg h1 h2 m1 m2 s1 s2 : UInt8) :
    (abbrOf (prefixBytes ++ [sg] ++ [h1, h2] ++ [58] ++ [m1, m2] ++ [58] ++ [s1, s2])).val =
      [sg, h1, h2] ++ (if s1 = 48 ∧ s2 = 48 then (if m1 = 48 ∧ m2 = 48 then [] else [m1, m2])
        else [m1, m2, s1, s2]) := by
  unfold abbrOf
  simp [prefixBytes_eq]
  split
  · split <;> simp
  · simp

theorem ofNat48 (k : Int) (h0 : 0 ≤ k) (h1 : k ≤ 9) : UInt8.ofNat (48 + k.toNat) = 48 ↔ k = 0 := by
  constructor
  · intro h
    have := congrArg UInt8.toNat h
    simp [UInt8.toNat_ofNat'] at this
    omega
  · intro h; subst h; rfl

theorem td_zero (n : Int) (h0 : 0 ≤ n) (h1 : n ≤ 99) :
    (UInt8.ofNat (48 + (n / 10).toNat) = 48 ∧ UInt8.ofNat (48 + (n % 10).toNat) = 48) ↔ n = 0 := by
  rw [ofNat48 _ (by omega) (by omega), ofNat48 _ (by omega) (by omega)]; omega
theorem abbrOf_abs (A : Int) (h0 : 0 ≤ A) (h1 : A ≤ 86400) (sg : UInt8) :
    (abbrOf (prefixBytes ++ [sg] ++ td (A / 3600) ++ [58] ++ td (A / 60 % 60) ++ [58] ++ td (A % 60))).val =
      [sg] ++ td (A / 3600) ++
        (if A % 3600 = 0 then [] else td (A / 60 % 60) ++ (if A % 60 = 0 then [] else td (A % 60))) := by
  unfold td
  rw [abbrOf_shape]
  simp only [td_zero (A % 60) (by omega) (by omega), td_zero (A / 60 % 60) (by omega) (by omega)]
  by_cases hs : A % 60 = 0
  · by_cases hm : A / 60 % 60 = 0
    · have : A % 3600 = 0 := by omega
      simp [hs, hm, this]
    · have : ¬ A % 3600 = 0 := by omega
      simp [hs, hm, this]
  · have : ¬ A % 3600 = 0 := by omega
    simp [hs, this]

theorem abbrOf_UTC : (abbrOf [85, 84, 67]).val = [85, 84, 67] := by decide
def isDig (c : UInt8) : Prop := 48 ≤ c ∧ c ≤ 57
instance (c : UInt8) : Decidable (isDig c) := by unfold isDig; infer_instance
def dv (c : UInt8) : Int := c.toNat - 48

theorem dv_range (c : UInt8) (h : isDig c) : 0 ≤ dv c ∧ dv c ≤ 9 := by
  have h1 := UInt8.le_iff_toNat_le.mp h.1
  have h2 := UInt8.le_iff_toNat_le.mp h.2
  simp at h1 h2
  unfold dv; omega

theorem digitIdx_dig (c : UInt8) (h : isDig c) : digitIdx c = some (dv c) := by
  unfold digitIdx; unfold isDig at h; rw [if_pos h]; rfl

theorem digitIdx_nondig (c : UInt8) (h : ¬ isDig c) : digitIdx c = some 10 ∨ digitIdx c = none := by
  unfold digitIdx; unfold isDig at h; rw [if_neg h]; split <;> simp

theorem parse02d_cons (a b : UInt8) (rest : Bytes) :
    parse02d (a :: b :: rest) = if isDig a ∧ isDig b then dv a * 10 + dv b else -1 := by
  unfold parse02d peek
  simp only [List.headD_cons, List.drop_succ_cons, List.drop_zero]
  by_cases ha : isDig a
  · by_cases hb : isDig b
    · have := dv_range a ha; have := dv_range b hb
      rw [digitIdx_dig a ha, digitIdx_dig b hb]
      simp only [ha, hb, and_self, if_true]
      rw [if_pos (by omega)]
    · rw [digitIdx_dig a ha]
      rcases digitIdx_nondig b hb with h | h <;> simp [h, hb]
  · rcases digitIdx_nondig a ha with h | h
    · rw [h]; simp only [ha, false_and, if_false]
      cases digitIdx b <;> simp
    · rw [h]; simp [ha]

theorem parse02d_ne (a b : UInt8) (rest : Bytes) :
    (parse02d (a :: b :: rest) == -1) = !decide (isDig a ∧ isDig b) := by
  rw [parse02d_cons]
  by_cases h : isDig a ∧ isDig b
  · have := dv_range a h.1; have := dv_range b h.2
    simp only [h, and_self, if_true, decide_true, Bool.not_true]
    simp; omega
  · simp [h]

theorem fromName_shape (c0 h1 h2 c3 m1 m2 c6 s1 s2 : UInt8) :
    fromName (prefixBytes ++ [c0, h1, h2, c3, m1, m2, c6, s1, s2]) =
      if (c0 = 43 ∨ c0 = 45) ∧ c3 = 58 ∧ c6 = 58 ∧ (isDig h1 ∧ isDig h2) ∧ (isDig m1 ∧ isDig m2) ∧
          (isDig s1 ∧ isDig s2) then
        (if ((dv h1 * 10 + dv h2) * 60 + (dv m1 * 10 + dv m2)) * 60 + (dv s1 * 10 + dv s2) > 86400 then none
         else some ((((dv h1 * 10 + dv h2) * 60 + (dv m1 * 10 + dv m2)) * 60 + (dv s1 * 10 + dv s2)) *
           (if c0 = 45 then -1 else 1)))
      else none := by
  unfold fromName
  simp only [prefixBytes_eq, ofString_UTC, ofString_UTC0]
  simp [parse02d_ne]
  by_cases a0 : c0 = 43 ∨ c0 = 45
  · have a0' : ¬ (¬c0 = 43 ∧ ¬c0 = 45) := fun h => a0.elim h.1 h.2
    rw [if_neg a0']
    by_cases a1 : c3 = 58 ∧ c6 = 58
    · rw [if_neg (by simp [a1])]
      by_cases a2 : isDig h1 ∧ isDig h2
      · rw [if_neg (by simp [a2])]
        by_cases a3 : isDig m1 ∧ isDig m2
        · rw [if_neg (by simp [a3])]
          by_cases a4 : isDig s1 ∧ isDig s2
          · rw [if_neg (by simp [a4])]
            simp only [parse02d_cons, a0, a1, a2, a3, a4, and_self, if_true]
            have e : ∀ x y z : Int, z + (x * 60 + y) * 60 = (x * 60 + y) * 60 + z := by intros; omega
            rw [e]
          · rw [if_pos (Classical.not_and_iff_not_or_not.mp a4)]; rw [if_neg (by simp only [a4]; simp)]
        · rw [if_pos (Classical.not_and_iff_not_or_not.mp a3)]; rw [if_neg (by simp only [a3]; simp)]
      · rw [if_pos (Classical.not_and_iff_not_or_not.mp a2)]; rw [if_neg (by simp only [a2]; simp)]
    · rw [if_pos (Classical.not_and_iff_not_or_not.mp a1)]; rw [if_neg (fun h => a1 ⟨h.2.1, h.2.2.1⟩)]
  · rw [if_pos (not_or.mp a0)]; rw [if_neg (by simp only [a0]; simp)]
theorem list_len9 {α} (l : List α) (h : l.length = 9) :
    ∃ a b c d e f g i j, l = [a, b, c, d, e, f, g, i, j] := by
  rcases l with _ | ⟨a, _ | ⟨b, _ | ⟨c, _ | ⟨d, _ | ⟨e, _ | ⟨f, _ | ⟨g, _ | ⟨i, _ | ⟨j, _ | ⟨k, l⟩⟩⟩⟩⟩⟩⟩⟩⟩⟩ <;>
    simp at h
  exact ⟨a, b, c, d, e, f, g, i, j, rfl⟩

theorem fromName_UTC (s : Bytes) (h : s = [85, 84, 67] ∨ s = [85, 84, 67, 48]) : fromName s = some 0 := by
  unfold fromName; rw [ofString_UTC, ofString_UTC0, if_pos h]

theorem fromName_bad (s : Bytes) (h : ¬ (s = [85, 84, 67] ∨ s = [85, 84, 67, 48]))
    (h2 : ¬ (s.length = 18 ∧ s.take 9 = prefixBytes)) : fromName s = none := by
  unfold fromName; rw [ofString_UTC, ofString_UTC0, if_neg h]
  have : prefixBytes.length = 9 := by decide
  simp only [this]
  by_cases hl : s.length = 18
  · rw [if_neg (by omega), if_pos (fun h => h2 ⟨hl, h⟩)]
  · rw [if_pos (by omega)]

/-- total number of seconds spelled by six digits -/
def tot (h1 h2 m1 m2 s1 s2 : UInt8) : Int :=
  ((dv h1 * 10 + dv h2) * 60 + (dv m1 * 10 + dv m2)) * 60 + (dv s1 * 10 + dv s2)

theorem fromName_iff' (s : Bytes) (off : Int) :
    fromName s = some off ↔
      ((s = [85, 84, 67] ∨ s = [85, 84, 67, 48]) ∧ off = 0) ∨
      (∃ (neg : Bool) (h1 h2 m1 m2 s1 s2 : UInt8),
        isDig h1 ∧ isDig h2 ∧ isDig m1 ∧ isDig m2 ∧ isDig s1 ∧ isDig s2 ∧
        s = prefixBytes ++ [if neg then 45 else 43, h1, h2, 58, m1, m2, 58, s1, s2] ∧
        tot h1 h2 m1 m2 s1 s2 ≤ 86400 ∧
        off = (if neg then -(tot h1 h2 m1 m2 s1 s2) else tot h1 h2 m1 m2 s1 s2)) := by
  constructor
  · intro hf
    by_cases hU : s = [85, 84, 67] ∨ s = [85, 84, 67, 48]
    · rw [fromName_UTC s hU] at hf
      exact Or.inl ⟨hU, by injection hf with hf; exact hf.symm⟩
    · by_cases hl : s.length = 18 ∧ s.take 9 = prefixBytes
      · right
        have hs : s = prefixBytes ++ s.drop 9 := by
          rw [← hl.2]; exact (List.take_append_drop 9 s).symm
        obtain ⟨c0, h1, h2, c3, m1, m2, c6, s1, s2, hd⟩ := list_len9 (s.drop 9) (by simp [hl.1])
        rw [hd] at hs
        rw [hs, fromName_shape] at hf
        split at hf
        · rename_i hc
          obtain ⟨hc0, hc3, hc6, ⟨d1, d2⟩, ⟨d3, d4⟩, d5, d6⟩ := hc
          split at hf
          · exact absurd hf (by simp)
          · rename_i ht
            injection hf with hf
            refine ⟨decide (c0 = 45), h1, h2, m1, m2, s1, s2, d1, d2, d3, d4, d5, d6, ?_, ?_, ?_⟩
            · rw [hs, hc3, hc6]
              rcases hc0 with hc0 | hc0 <;> subst hc0 <;> rfl
            · unfold tot; omega
            · rw [← hf]; unfold tot
              rcases hc0 with hc0 | hc0 <;> subst hc0 <;> simp
        · exact absurd hf (by simp)
      · rw [fromName_bad s hU hl] at hf; exact absurd hf (by simp)
  · rintro (⟨hU, h0⟩ | ⟨neg, h1, h2, m1, m2, s1, s2, d1, d2, d3, d4, d5, d6, hs, ht, ho⟩)
    · rw [fromName_UTC s hU, h0]
    · rw [hs, fromName_shape, if_pos ⟨by cases neg <;> simp, rfl, rfl, ⟨d1, d2⟩, ⟨d3, d4⟩, d5, d6⟩]
      unfold tot at ht ho
      rw [if_neg (by omega), ho]
      cases neg <;> simp

theorem digit_of (k : Int) (h0 : 0 ≤ k) (h1 : k ≤ 9) :
    isDig (UInt8.ofNat (48 + k.toNat)) ∧ dv (UInt8.ofNat (48 + k.toNat)) = k := by
  have hk : k.toNat ≤ 9 := by omega
  have e : (UInt8.ofNat (48 + k.toNat)).toNat = 48 + k.toNat := by
    rw [UInt8.toNat_ofNat']; omega
  refine ⟨⟨UInt8.le_iff_toNat_le.mpr ?_, UInt8.le_iff_toNat_le.mpr ?_⟩, ?_⟩
  · rw [e]; simp
  · rw [e]; simp; omega
  · unfold dv; rw [e]; omega

/-- the two characters of `td n` are digits spelling `n` -/
theorem td_dig (n : Int) (h0 : 0 ≤ n) (h1 : n ≤ 99) :
    ∃ a b, td n = [a, b] ∧ isDig a ∧ isDig b ∧ dv a * 10 + dv b = n := by
  have a := digit_of (n / 10) (by omega) (by omega)
  have b := digit_of (n % 10) (by omega) (by omega)
  exact ⟨_, _, rfl, a.1, b.1, by rw [a.2, b.2]; omega⟩

theorem fromName_canonical (A : Int) (h0 : 0 < A) (h1 : A ≤ 86400) (neg : Bool) :
    fromName (prefixBytes ++ [if neg then 45 else 43] ++ td (A / 3600) ++ [58] ++ td (A / 60 % 60) ++ [58] ++
      td (A % 60)) = some (if neg then -A else A) := by
  obtain ⟨a1, a2, e1, d1, d2, v1⟩ := td_dig (A / 3600) (by omega) (by omega)
  obtain ⟨a3, a4, e2, d3, d4, v2⟩ := td_dig (A / 60 % 60) (by omega) (by omega)
  obtain ⟨a5, a6, e3, d5, d6, v3⟩ := td_dig (A % 60) (by omega) (by omega)
  have ht : tot a1 a2 a3 a4 a5 a6 = A := by unfold tot; rw [v1, v2, v3]; omega
  rw [fromName_iff', e1, e2, e3]
  exact .inr ⟨neg, a1, a2, a3, a4, a5, a6, d1, d2, d3, d4, d5, d6, rfl, by rw [ht]; exact h1, by rw [ht]⟩
end Cctz.Fixed
