/-
  C08Lex helper proofs: the induction over the format string — `formatLoop` raises no flag and
  renders what the specification's `segs` renders.
-/
import Cctz.Proofs.LexMain

namespace Cctz.Lx
open Cctz Cctz.Bytes Cctz.Format Cctz.Spec Cctz.Spec.Lex Cctz.Fm Cctz.Wd

section
variable {sf : Strftime} {fmt : Array UInt8} {al : Tz.AbsLookup} {tm : Tm} {t fs : Int}

theorem afterPcts_nil_iff (cur : Nat) (h : cur ≤ fmt.size) : afterPcts (fmt.toList.drop cur) = [] ↔ cur2 fmt cur = fmt.size := by
  rw [← drop_cur2, drop_eq_nil_iff fmt _ (cur2_le fmt cur h)]

/-- The cursor phase against one unfolding of the specification: what is still to be rendered from
`st` is what the phase emitted followed by the specification's reading from `cur2` on — with the
run as it stands then if the percent signs pair up or end the string, from the lone '%' (`lonePctSegs`) if not. -/
theorem cursorPhase_spec (st : St) (hp : st.pending ≤ st.cur) (hc : st.cur < fmt.size) :
    ∃ out2 pending2, prep fmt st = (out2, pending2, cur2 fmt st.cur, cur1 fmt st.cur) ∧
      render sf tm out2 ++ render sf tm
        (if cur2 fmt st.cur = fmt.size ∨ pctCount (fmt.toList.drop st.cur) % 2 = 0
          then specSegs al t fs (runOf fmt pending2 (cur2 fmt st.cur)) (fmt.toList.drop (cur2 fmt st.cur))
          else lonePctSegs fmt al t fs pending2 (cur2 fmt st.cur)) =
        render sf tm st.out ++
          render sf tm (specSegs al t fs (runOf fmt st.pending st.cur) (fmt.toList.drop st.cur)) ∧
      pending2 ≤ cur2 fmt st.cur ∧
      (¬ (cur2 fmt st.cur = fmt.size ∨ pctCount (fmt.toList.drop st.cur) % 2 = 0) → pending2 < cur2 fmt st.cur) := by
  have hs : fmt.toList.drop st.cur ≠ [] := by
    rw [Ne, drop_eq_nil_iff fmt _ (by omega)]; omega
  have hc2 := cur2_le fmt st.cur (by omega)
  have hnil := afterPcts_nil_iff (fmt := fmt) st.cur (by omega)
  have hd2 := drop_cur2 fmt st.cur
  have h12 : cur2 fmt st.cur = cur1 fmt st.cur + pctCount (fmt.toList.drop st.cur) := rfl
  have h1 : st.cur ≤ cur1 fmt st.cur := by unfold cur1; omega
  by_cases hpe : st.pending = st.cur
  · -- no run is open
    refine ⟨_, _, prep_norun fmt st (by omega) hpe, ?_⟩
    have hpend : prepPending fmt st.cur = if pctCount (fmt.toList.drop st.cur) % 2 = 1 ∧ cur2 fmt st.cur ≠ fmt.size
        then cur2 fmt st.cur - 1 else cur2 fmt st.cur := rfl
    rw [show runOf fmt st.pending st.cur = none by simp [runOf, hpe], render_append, render_prepSegs, hd2]
    generalize prepPending fmt st.cur = pending2 at hpend
    generalize hk : pctCount (fmt.toList.drop st.cur) = k at *
    by_cases hodd : cur2 fmt st.cur = fmt.size ∨ k % 2 = 0
    · have hp2 : pending2 = cur2 fmt st.cur := by
        rw [hpend, if_neg]; rintro ⟨a, b⟩; rcases hodd with h | h <;> omega
      refine ⟨?_, by omega, fun h => absurd hodd h⟩
      rw [if_pos hodd, hp2, show runOf fmt (cur2 fmt st.cur) (cur2 fmt st.cur) = none by simp [runOf]]
      by_cases hev : k % 2 = 0
      · rw [specSegs_none_even al t fs _ hs (by rw [hk]; exact hev), if_neg (by omega), hk]
        simp only [render_append, render_cons_lit, render_nil, List.append_assoc, List.append_nil]
      · have hfin : cur2 fmt st.cur = fmt.size := hodd.resolve_right hev
        rw [specSegs_none_end al t fs _ hs (by rw [hk]; exact hev) (hnil.2 hfin), if_pos ⟨by omega, hfin⟩, hk,
          hnil.2 hfin, specSegs_nil]
        simp only [render_append, render_cons_lit, render_nil, List.append_assoc, List.append_nil,
          endSegs]
    · have hkodd : k % 2 = 1 := by
        have : ¬ k % 2 = 0 := fun h => hodd (Or.inr h)
        omega
      have hne : cur2 fmt st.cur ≠ fmt.size := fun h => hodd (Or.inl h)
      have hp2 : pending2 = cur2 fmt st.cur - 1 := by rw [hpend, if_pos ⟨hkodd, hne⟩]
      refine ⟨?_, by omega, fun _ => by omega⟩
      rw [if_neg hodd, if_neg (fun h => hne h.2), List.append_nil]
      have hs2 : afterPcts (fmt.toList.drop st.cur) ≠ [] := fun h => hne (hnil.1 h)
      unfold lonePctSegs
      rw [hd2]
      cases hcv : conv (afterPcts (fmt.toList.drop st.cur)) with
      | some p =>
        obtain ⟨c, r⟩ := p
        dsimp only
        rw [specSegs_none_conv al t fs _ hs (by omega) hs2 c r hcv, hp2, flushTo_self, hk]
        simp only [render_append, render_cons_lit, render_nil, List.append_assoc, List.append_nil, List.nil_append]
      | none =>
        dsimp only
        have hsl : slice fmt pending2 (cur2 fmt st.cur) = [37] := by
          have h1 : cur2 fmt st.cur = cur1 fmt st.cur + (k - 1) + 1 := by omega
          rw [hp2, h1, Nat.add_sub_cancel, slice_one fmt _ (by omega), chAt_pct fmt _ _ (by omega)]
        rw [specSegs_none_open al t fs _ hs (by omega) hs2 hcv, hsl, hk]
        simp only [render_append, render_cons_lit, render_nil, List.append_assoc, List.append_nil]
  · -- a run is open: nothing is emitted, the run grows
    refine ⟨_, _, prep_run fmt st (by omega) hpe, ?_, by omega, fun _ => by omega⟩
    -- the bytes between `pending` and a position inside the percent signs
    have hsl : ∀ j, j ≤ pctCount (fmt.toList.drop st.cur) → slice fmt st.pending (cur1 fmt st.cur + j) =
        slice fmt st.pending st.cur ++ leadText (fmt.toList.drop st.cur) ++ pcts j := by
      intro j hj
      rw [slice_split fmt st.pending st.cur _ (by omega) (by omega),
        slice_split fmt st.cur (cur1 fmt st.cur) _ h1 (by omega), slice_leadText, slice_pcts fmt _ _ hj,
        List.append_assoc]
    rw [show runOf fmt st.pending st.cur = some (slice fmt st.pending st.cur) by simp [runOf, hpe], hd2]
    congr 2
    generalize hk : pctCount (fmt.toList.drop st.cur) = k at *
    by_cases hodd : cur2 fmt st.cur = fmt.size ∨ k % 2 = 0
    · rw [if_pos hodd, show runOf fmt st.pending (cur2 fmt st.cur) = some (slice fmt st.pending (cur2 fmt st.cur)) by
          simp [runOf]; omega,
        h12, hsl k (Nat.le_refl _), specSegs_some_pass al t fs _ _ hs (by rw [hk, hnil]; exact hodd.symm), hk]
    · have hkodd : k % 2 = 1 := by
        have : ¬ k % 2 = 0 := fun h => hodd (Or.inr h)
        omega
      have hne : cur2 fmt st.cur ≠ fmt.size := fun h => hodd (Or.inl h)
      have hs2 : afterPcts (fmt.toList.drop st.cur) ≠ [] := fun h => hne (hnil.1 h)
      rw [if_neg hodd]
      unfold lonePctSegs
      rw [hd2]
      cases hcv : conv (afterPcts (fmt.toList.drop st.cur)) with
      | some p =>
        obtain ⟨c, r⟩ := p
        dsimp only
        have hfl : flushTo fmt st.pending (cur2 fmt st.cur - 1) [] =
            [.run (slice fmt st.pending st.cur ++ leadText (fmt.toList.drop st.cur) ++ pcts (k - 1))] := by
          unfold flushTo
          rw [if_pos (by omega), show cur2 fmt st.cur - 1 = cur1 fmt st.cur + (k - 1) by omega,
            hsl (k - 1) (by omega)]
          rfl
        rw [hfl, specSegs_some_conv al t fs _ _ hs (by rw [hk, hnil]; rintro (h | h) <;> omega) c r hcv, hk]
        rfl
      | none =>
        dsimp only
        rw [specSegs_some_none al t fs _ _ hs hcv, h12, hsl k (Nat.le_refl _), hk]

theorem iteration_spec (E : Env al tm t fs) {fuel : Nat} (st : St) (hp : st.pending ≤ st.cur) (hc : st.cur < fmt.size)
    (ih : SpecFrom sf fmt al tm t fs fuel (cur2 fmt st.cur)) :
    Good sf tm (formatLoop fmt al tm t fs (fuel + 1) st)
      (render sf tm st.out ++
        render sf tm (specSegs al t fs (runOf fmt st.pending st.cur) (fmt.toList.drop st.cur))) := by
  obtain ⟨out2, pending2, hprep, heq, hle, hlt⟩ := cursorPhase_spec (sf := sf) (al := al) (tm := tm) (t := t) (fs := fs) st hp hc
  have hc2 := cur2_le fmt st.cur (by omega)
  rw [loop_step _ _ _ _ _ _ _ _ _ _ _ (by omega) hprep, ← heq]
  by_cases hodd : cur2 fmt st.cur = fmt.size ∨ pctCount (fmt.toList.drop st.cur) % 2 = 0
  · rw [if_pos hodd, specTail_val_loop _ _ _ _ _ _ _ _ _ _ (by rw [cur2_sub]; exact hodd)]
    exact ih ⟨out2, pending2, cur2 fmt st.cur⟩ (Nat.le_refl _) hle hc2
  · rw [if_neg hodd]
    exact specTail_val E ih (hlt hodd) hc2 (chAt_cur2_ne fmt st.cur) (by rw [cur2_sub]; exact hodd)

/-- the loop: with the cursor inside the string and fuel for what remains, no flag is raised and
the output is the specification's -/
theorem loop_spec (E : Env al tm t fs) :
    ∀ (fuel : Nat) (st : St), st.pending ≤ st.cur → st.cur ≤ fmt.size → fmt.size - st.cur + 1 ≤ fuel →
      Good sf tm (formatLoop fmt al tm t fs fuel st)
        (render sf tm st.out ++
          render sf tm (specSegs al t fs (runOf fmt st.pending st.cur) (fmt.toList.drop st.cur))) := by
  intro fuel
  induction fuel with
  | zero => intro st _ _ h; omega
  | succ fuel ih =>
    intro st hp hle hfuel
    by_cases hfin : st.cur = fmt.size
    · rw [loop_done _ _ _ _ _ _ _ hfin]
      refine ⟨Ck.pure_ok _, ?_⟩
      rw [Ck.pure_val, (drop_eq_nil_iff fmt _ hle).2 hfin, specSegs_nil]
      by_cases hpe : st.pending = st.cur
      · rw [if_neg (by omega), show runOf fmt st.pending st.cur = none by simp [runOf, hpe]]
        simp [endSegs, render_nil]
      · rw [if_pos (by omega), show runOf fmt st.pending st.cur = some (slice fmt st.pending st.cur) by
          simp [runOf, hpe], render_append, hfin]
        rfl
    · have hlt : st.cur < fmt.size := by omega
      have hgt := cur_lt_cur2 fmt st.cur hlt
      have ihv : SpecFrom sf fmt al tm t fs fuel (cur2 fmt st.cur) :=
        fun st' h1 h2 h3 => ih st' h2 h3 (by omega)
      exact iteration_spec E st hp hlt ihv

end

theorem formatSegs_spec (sf : Strftime) (fmt : Bytes) (al : Tz.AbsLookup) (t fs : Int) (hv : Valid al.cs)
    (hy : inI64 al.cs.y) (ho1 : -90000 < al.offset) (ho2 : al.offset < 90000) (ht : inI64 t) (h0 : 0 ≤ fs)
    (h1 : fs < 1000000000000000) :
    (formatSegs fmt al t fs).ok ∧
    render sf (formatSegs fmt al t fs).val.1 (formatSegs fmt al t fs).val.2 =
      Lex.formatSpec sf (toTM al).val fmt al t fs := by
  have E : Env al (toTM al).val t fs := ⟨hv, hy, ho1, ho2, ht, h0, h1, by rw [toTM_val al hv]⟩
  obtain ⟨hok, hval⟩ := loop_spec (sf := sf) E (fmt.length + 2) {} (Nat.le_refl _) (Nat.zero_le _)
    (by show fmt.toArray.size - 0 + 1 ≤ fmt.length + 2; simp)
  refine ⟨(formatSegs_ok fmt al t fs).2 ⟨toTM_ok al hv hy, hok⟩, ?_⟩
  rw [formatSegs_val]
  dsimp only
  unfold Lex.formatSpec
  rw [hval, segs_eq_specSegs al t fs _ none fmt (Nat.le_succ _)]
  show render sf _ [] ++ render sf _ (specSegs al t fs (runOf fmt.toArray 0 0) (fmt.toArray.toList.drop 0)) = _
  simp [runOf, render_nil]

theorem format_val (sf : Strftime) (fmt : Bytes) (al : Tz.AbsLookup) (t fs : Int) (hv : Valid al.cs)
    (hy : inI64 al.cs.y) (ho1 : -90000 < al.offset) (ho2 : al.offset < 90000) (ht : inI64 t) (h0 : 0 ≤ fs)
    (h1 : fs < 1000000000000000) :
    (format sf fmt al t fs).val = Lex.formatSpec sf (toTM al).val fmt al t fs :=
  (formatSegs_spec sf fmt al t fs hv hy ho1 ho2 ht h0 h1).2

theorem percent_segs (a b : Bytes) (al : Tz.AbsLookup) (t fs : Int)
    (ha : ∀ c ∈ a, c ≠ 37) (hb : ∀ c ∈ b, c ≠ 37) :
    render (fun _ _ => []) (formatSegs (a ++ [37, 37] ++ b) al t fs).val.1
      (formatSegs (a ++ [37, 37] ++ b) al t fs).val.2 = a ++ [37] ++ b := by
  rw [formatSegs_val]
  dsimp only
  generalize (toTM al).val = tm
  have hlen : (a ++ [37, 37] ++ b).length + 2 = (a.length + b.length + 1) + 3 := by simp; omega
  rw [hlen]
  generalize a.length + b.length + 1 = fuel
  generalize hfmt : (a ++ [37, 37] ++ b).toArray = fmt
  have hl : fmt.toList = a ++ 37 :: 37 :: b := by subst hfmt; simp
  have hsz : fmt.size = a.length + 2 + b.length := by subst hfmt; simp; omega
  obtain ⟨hb1, hb2⟩ := leadText_of_no37 b hb
  -- the reading of the whole string: text `a`, two percent signs, then `b`
  have h1 : leadText (fmt.toList.drop 0) = a := by
    rw [List.drop_zero, hl, leadText, List.takeWhile_append_of_pos (by simpa using ha)]; simp [List.takeWhile]
  have h2 : fromPct (fmt.toList.drop 0) = 37 :: 37 :: b := by
    rw [List.drop_zero, hl, fromPct, List.dropWhile_append_of_pos (by simpa using ha)]; simp [List.dropWhile]
  have hk0 : (b.takeWhile (· = 37)) = [] ∧ b.dropWhile (· = 37) = b := by
    cases b with
    | nil => exact ⟨rfl, rfl⟩
    | cons x b => have := hb x (List.mem_cons_self ..); simp [List.takeWhile, List.dropWhile, this]
  have h3 : pctCount (fmt.toList.drop 0) = 2 := by
    simp only [pctCount, h2, List.takeWhile, decide_true, hk0.1, List.length_cons, List.length_nil]
  have h4 : afterPcts (fmt.toList.drop 0) = b := by
    simp only [afterPcts, h2, List.dropWhile, decide_true, hk0.2]
  have hc2 : cur2 fmt 0 = a.length + 2 := by
    simp only [cur2, cur1, h1, h3]; omega
  have r1 : render (fun _ _ => []) tm (({} : St).out ++ prepSegs fmt 0) = a ++ [37] := by
    rw [render_append, render_prepSegs, h1, h3, if_neg (by omega)]
    simp [render, pcts]
  rw [iteration_even (fuel := fuel + 2) {} (by show 0 < fmt.size; omega) rfl (Or.inr (by rw [h3]))]
  generalize ({} : St).out ++ prepSegs fmt 0 = o1 at r1
  have hd : fmt.toList.drop (cur2 fmt 0) = b := by rw [drop_cur2, h4]
  by_cases hb0 : b = []
  · subst hb0
    rw [loop_done' _ _ _ _ _ _ _ _ (by rw [hc2, hsz]; rfl), Ck.pure_val, r1, List.append_nil]
  · have hlen : 0 < b.length := List.length_pos_iff.2 hb0
    have hc3 : cur2 fmt (cur2 fmt 0) = fmt.size := by
      show cur2 fmt 0 + (leadText (fmt.toList.drop (cur2 fmt 0))).length + pctCount (fmt.toList.drop (cur2 fmt 0)) = _
      rw [hd, hb1, pctCount, hb2, hc2, hsz]
      rfl
    rw [iteration_even (fuel := fuel + 1) ⟨o1, cur2 fmt 0, cur2 fmt 0⟩ (by show cur2 fmt 0 < fmt.size; omega) rfl
        (Or.inl hc3), loop_done' _ _ _ _ _ _ _ _ hc3, Ck.pure_val, render_append, render_prepSegs, r1, hd, hb1]
    simp [pcts, pctCount, hb2]

/-- `format()` raises no flag at all: no signed overflow, no index outside the format string or a
table, no fuel exhausted, nothing longer than the scratch buffer -/
theorem format_ok (sf : Strftime) (fmt : Bytes) (al : Tz.AbsLookup) (t fs : Int) (hv : Valid al.cs)
    (hy : inI64 al.cs.y) (ho1 : -90000 < al.offset) (ho2 : al.offset < 90000) (ht : inI64 t) (h0 : 0 ≤ fs)
    (h1 : fs < 1000000000000000) : (format sf fmt al t fs).ok :=
  (Ck.map_ok _ _).2 (formatSegs_spec sf fmt al t fs hv hy ho1 ho2 ht h0 h1).1

end Cctz.Lx
