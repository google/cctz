/-
  Civil → instant lookups on a table (C02, C03, C06): what the answer of `MakeTime` means in terms
  of the instants that display the civil second, and the order-preservation of `convert`.
  The model analysis is in `TcMake` (`Tc.makeTime_outcome`), the arithmetic of stretches in `TcSeg`.
-/
import Cctz.Model.Tz
import Cctz.Spec.TableSem
import Cctz.Spec.TableTame
import Cctz.Proofs.TcSeg
import Cctz.Proofs.TcMake
import Cctz.Proofs.TcShift
import Cctz.Proofs.TcWitness
import Cctz.Proofs.TableLookup

namespace Cctz.Tc
open Cctz Cctz.Tz Cctz.Spec

theorem clamp64_eq (t : Int) : clamp64 t = max i64min (min i64max t) := by
  unfold clamp64 i64min i64max
  split <;> (try split) <;> omega

theorem clamp64_of_in {t : Int} (h : inI64 t) : clamp64 t = t := by
  unfold inI64 at h; rw [clamp64_eq]; omega

theorem clamp64_le (t : Int) : clamp64 t ≤ i64max := by
  rw [clamp64_eq]; unfold i64min i64max; omega

theorem clamp64_mono {a b : Int} (h : a ≤ b) : clamp64 a ≤ clamp64 b := by
  rw [clamp64_eq, clamp64_eq]; omega

theorem clamp64_le_add {a b d : Int} (hd : 0 ≤ d) (h : a ≤ b + d) : clamp64 a ≤ clamp64 b + d := by
  rw [clamp64_eq, clamp64_eq]; omega

theorem uval_cases (z : Zone) (k : Nat) (x : Int) :
    uval z k x = x - offBefore z k ∨ (x - offBefore z k < i64min ∧ uval z k x = i64min) ∨
      (i64max < x - offBefore z k ∧ uval z k x = i64max) := by
  unfold uval
  by_cases k0 : k = 0
  · subst k0; simp only [if_true]; split <;> simp_all
  · simp only [k0, if_false]; split
    · split <;> simp_all
    · simp

theorem uval_eq_clamp {z : Zone} (wf : TableWF z) (tir : TimesInRange z) {k : Nat} {x : Int}
    (hk : k ≤ z.transitions.size)
    (h1 : 0 < k → timeOf z (k - 1) + offOf z (k - 1) ≤ x)
    (h2 : k < z.transitions.size → x ≤ timeOf z k + offBefore z k - 1) :
    uval z k x = clamp64 (x - offBefore z k) := by
  have hn := wf.nonempty
  unfold uval clamp64
  by_cases k0 : k = 0
  · subst k0
    have := h2 hn
    have := (tir 0 hn).2
    simp only [if_true]
    split
    · rfl
    · rw [if_neg (by omega)]
  · simp only [k0, if_false]
    have hs := offBefore_succ z (k - 1)
    rw [show k - 1 + 1 = k by omega] at hs
    have := h1 (by omega)
    have := (tir (k - 1) (by omega)).1
    by_cases kn : k = z.transitions.size
    · subst kn
      rw [if_pos rfl]
      rw [if_neg (show ¬ (x - offBefore z z.transitions.size < i64min) by omega)]
    · simp only [kn, if_false]
      have := h2 (by omega)
      have := (tir k (by omega)).2
      rw [if_neg (by omega), if_neg (by omega)]

/-! ### the offset in force on a stretch -/

theorem offAt_of_inSeg {z : Zone} (wf : TableWF z) {j : Nat} {u : Int} (h : InSeg z j u) :
    offAt z u = offBefore z j := by
  rw [offAt_eq, segIndex_of_inSeg wf h]

theorem offAt_entry {z : Zone} (wf : TableWF z) {k : Nat} (hk : k < z.transitions.size) :
    offAt z (timeOf z k) = offOf z k := by
  rw [offAt_of_inSeg wf (j := k + 1) ⟨by omega, fun _ => by simp, fun h => timeOf_lt wf (by omega) h⟩,
    offBefore_succ]

/-! ### an `Outcome` in terms of the instants that display `x` -/

/-- UNIQUE: one instant `t` displays `x` and the value is `t`, saturated at the ends (clamped, when
the table's instants are int64s); SKIPPED: none does; REPEATED: two do -/
theorem Outcome.spec {z : Zone} (wf : TableWF z) (sep : Separated z) {x : Int} {r : CivilLookup}
    (ho : Outcome z x r) :
    (∃ t w, r = mkUnique w ∧ (∀ u, shows z u x ↔ u = t) ∧
      (w = t ∨ (t < i64min ∧ w = i64min) ∨ (i64max < t ∧ w = i64max)) ∧
      (TimesInRange z → w = clamp64 t)) ∨
    (∃ i, i < z.transitions.size ∧ r = ⟨.skipped, x - offBefore z i, timeOf z i, x - offOf z i⟩ ∧
      (∀ u, ¬ shows z u x) ∧ x - offBefore z i ≥ timeOf z i ∧ timeOf z i > x - offOf z i) ∨
    (∃ i, i < z.transitions.size ∧ r = ⟨.repeated, x - offBefore z i, timeOf z i, x - offOf z i⟩ ∧
      (∀ u, shows z u x ↔ u = x - offBefore z i ∨ u = x - offOf z i) ∧
      x - offBefore z i < timeOf z i ∧ timeOf z i ≤ x - offOf z i) := by
  cases ho with
  | unique k hk h1 h2 hr =>
    exact Or.inl ⟨_, _, hr, unique_shows wf sep hk h1 h2, uval_cases z k x,
      fun tir => uval_eq_clamp wf tir hk (fun h => (h1 h).1) (fun h => (h2 h).2)⟩
  | skipped k hk h1 h2 hr =>
    exact Or.inr (Or.inl ⟨k, hk, hr, skipped_shows wf sep hk h1 h2, by omega, by omega⟩)
  | repeated i hi h1 h2 hr =>
    exact Or.inr (Or.inr ⟨i, hi, hr, repeated_shows wf sep hi h1 h2, by omega, by omega⟩)

/-! ### the instant `convert` returns, before saturation: the first instant displaying `x` or later -/

/-- before entry `k` the table shows nothing later than the second before the one the old clock
would show at it -/
theorem disp_before_entry {z : Zone} (wf : TableWF z) (sep : Separated z) {k : Nat}
    (hk : k < z.transitions.size) {u : Int} (h : u < timeOf z k) :
    u + offAt z u ≤ timeOf z k + offBefore z k - 1 := by
  have hs := inSeg_segIndex wf u
  rw [offAt_eq]
  generalize segIndex z u = j at hs
  have hr := inSeg_range hs rfl
  obtain ⟨_, hj1, _⟩ := hs
  have hjk : j ≤ k := Nat.not_lt.1 fun hlt => by
    have := hj1 (by omega)
    have := timeOf_mono wf (show k ≤ j - 1 by omega) (by omega)
    omega
  have := hr.2 (by omega)
  have := sep_p_mono sep hjk hk
  omega

theorem disp_lt_of_lt {z : Zone} (wf : TableWF z) (sep : Separated z) {k : Nat} {x v : Int}
    (hk : k ≤ z.transitions.size) (hvk : k < z.transitions.size → v ≤ timeOf z k)
    (hx : 0 < k → timeOf z (k - 1) + offBefore z (k - 1) - 1 < x)
    (hvx : v + offBefore z k ≤ x) : ∀ u, u < v → u + offAt z u < x := by
  intro u hu
  by_cases hk0 : 0 < k ∧ u < timeOf z (k - 1)
  · have := disp_before_entry wf sep (k := k - 1) (by omega) hk0.2
    have := hx hk0.1
    omega
  · rw [offAt_of_inSeg wf (j := k) ⟨hk, fun h0 => by omega, fun hkn => by have := hvk hkn; omega⟩]
    omega

/-- `v` is the first instant at which the table displays `x` or a later second -/
def FirstAt (z : Zone) (x v : Int) : Prop := x ≤ v + offAt z v ∧ ∀ u, u < v → u + offAt z u < x

theorem firstAt_mono {z : Zone} {x1 x2 v1 v2 : Int} (h1 : FirstAt z x1 v1) (h2 : FirstAt z x2 v2)
    (hx : x1 ≤ x2) : v1 ≤ v2 :=
  Int.not_lt.1 fun h => by
    have := h1.2 v2 h
    have := h2.1
    omega

/-- the value of `convert` (`trans` across a gap, `pre` otherwise) -/
def convOf (r : CivilLookup) : Int := if r.kind = .skipped then r.trans else r.pre

theorem outcome_conv {z : Zone} (wf : TableWF z) (sep : Separated z) (tir : TimesInRange z)
    (fer : FirstEntryRoom z) {x : Int} {r : CivilLookup} (ho : Outcome z x r) :
    ∃ v, convOf r = clamp64 v ∧ FirstAt z x v := by
  cases ho with
  | unique k hk h1 h2 hr =>
    refine ⟨x - offBefore z k, ?_, ?_, ?_⟩
    · subst hr
      show uval z k x = _
      exact uval_eq_clamp wf tir hk (fun h => (h1 h).1) (fun h => (h2 h).2)
    · have := (unique_shows wf sep hk h1 h2 (x - offBefore z k)).2 rfl
      unfold shows at this; omega
    · exact disp_lt_of_lt wf sep hk (fun h => by have := (h2 h).2; omega) (fun h => (h1 h).2) (by omega)
  | skipped k hk h1 h2 hr =>
    refine ⟨timeOf z k, ?_, ?_, ?_⟩
    · subst hr
      show timeOf z k = _
      exact (clamp64_of_in (tir k hk)).symm
    · rw [offAt_entry wf hk]; omega
    · intro u hu
      have := disp_before_entry wf sep hk hu
      omega
  | repeated i hi h1 h2 hr =>
    refine ⟨x - offBefore z i, ?_, ?_, ?_⟩
    · subst hr
      show x - offBefore z i = _
      refine (clamp64_of_in ⟨?_, ?_⟩).symm
      · by_cases i0 : i = 0
        · subst i0; unfold FirstEntryRoom at fer; omega
        · have := (sep (i - 1) (by omega)).1
          have hs := offBefore_succ z (i - 1)
          rw [show i - 1 + 1 = i by omega] at this hs
          have := (tir (i - 1) (by omega)).1
          omega
      · have := (tir i hi).2; omega
    · have := (repeated_shows wf sep hi h1 h2 (x - offBefore z i)).2 (Or.inl rfl)
      unfold shows at this; omega
    · refine disp_lt_of_lt wf sep (Nat.le_of_lt hi) (fun _ => by omega) ?_ (by omega)
      intro h0
      have := sep_pc sep (show i - 1 < i by omega) hi
      omega

theorem convert_val (z : Zone) (h : Nat) (cs : Fields) :
    (convert z h cs).val.1 = convOf (makeTime z h cs).val.1 := by
  simp only [convert, convOf, Ck.bindv, Ck.pure_val]

/-- a civil second after `lastYear`, not before the last entry on either clock: `MakeTime` answers
what it answers `s` cycles earlier, moved forward by `TimeLocal` -/
theorem makeTime_shift (z : Zone) (h : Nat) (cs : Fields) (ly : Int) (wf : TableWF z) (cso : CivilSorted z)
    (v : Valid cs) (hext : z.extended = true) (hly : z.lastYear = some ly) (hy : cs.y > ly)
    (hp : Civil.lt (trn z (z.transitions.size - 1)).prevCivilSec cs = true)
    (hl : Civil.lt cs (trn z (z.transitions.size - 1)).civilSec = false) :
    (makeTime z h cs).val.1 = (timeLocalShift
      (makeTime z h { cs with y := cs.y - 400 * ((cs.y - ly - 1) / 400 + 1) }).val.1
      ((cs.y - ly - 1) / 400 + 1)).val := by
  have hrd : (rd z.lastYear 0).val = ly := by simp only [hly, rd, Ck.pure_val]
  obtain ⟨cl, h2, hcl⟩ := core_inl z h { cs with y := cs.y - 400 * ((cs.y - ly - 1) / 400 + 1) }
    (by rw [hrd]; show ¬ (_ ∧ cs.y - 400 * ((cs.y - ly - 1) / 400 + 1) > ly); omega)
  rw [makeTime_of_shift z h cs v _ cl h2 (core_shift z h cs ly wf cso hext hly hy hp hl) hcl,
    makeTime_of_core z h _ cl h2 hcl]

end Cctz.Tc
