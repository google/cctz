/-
  C14 — Results never depend on call history (hints are invisible).
  The hidden state of a zone is one remembered table index per direction; the theorems hold for
  EVERY natural number as hint value, reachable or not — which also covers relaxed-atomic reads of
  a hint written by another thread (C13).
  (The cache half of C14 — loading a name again returns the first zone without consulting the data
  source — is `Cctz.C13`/`Cctz.C20`'s loader state machine: `cached_load_statement` there.)
-/
import Cctz.Model.Tz
import Cctz.Spec.TableSem
import Cctz.Proofs.Hints
import Cctz.Proofs.LtCheck

namespace Cctz.C14
open Cctz Cctz.Tz Cctz.Spec

/-- lookup(t) returns the same answer and raises the same flags whatever the hint -/
def breakTime_hint_irrelevant_statement : Prop :=
  ∀ (z : Zone) (h : Nat) (t : Int), TableWF z →
    (breakTime z h t).val.1 = (breakTime z 0 t).val.1 ∧ (breakTime z h t).flags = (breakTime z 0 t).flags

/-- lookup(cs) returns the same answer and raises the same flags whatever the hint -/
def makeTime_hint_irrelevant_statement : Prop :=
  ∀ (z : Zone) (h : Nat) (cs : Fields), TableWF z → CivilSorted z →
    (makeTime z h cs).val.1 = (makeTime z 0 cs).val.1 ∧ (makeTime z h cs).flags = (makeTime z 0 cs).flags

/-- hence convert too -/
def convert_hint_irrelevant_statement : Prop :=
  ∀ (z : Zone) (h : Nat) (cs : Fields), TableWF z → CivilSorted z →
    (convert z h cs).val.1 = (convert z 0 cs).val.1

/-- any sequence of calls, from any hidden state, returns the sequence of stateless answers -/
def history_irrelevant_statement : Prop :=
  ∀ (z : Zone) (h : Nat × Nat) (calls : List Call), TableWF z → CivilSorted z →
    runCalls z h calls = calls.map (stateless z)

/-! ### proofs (helper lemmas in `Cctz/Proofs/TbSearch.lean`, `Cctz/Proofs/Hints.lean`) -/

theorem breakTime_hint_irrelevant : breakTime_hint_irrelevant_statement :=
  fun _ h t wf => Tl.breakTime_hint wf h 0 t

theorem makeTime_hint_irrelevant : makeTime_hint_irrelevant_statement :=
  fun _ h cs wf cso => Tb.makeTime_hint wf cso cs h 0

theorem convert_hint_irrelevant : convert_hint_irrelevant_statement :=
  fun _ h cs wf cso => Tb.convert_hint wf cso h 0 cs

theorem history_irrelevant : history_irrelevant_statement :=
  fun _ h calls wf cso => Tb.runCalls_stateless wf cso calls h

/-! the hypotheses are satisfiable on a non-trivial table (three transitions, two types), and
the hinted path is really taken there: hint 1 brackets `t = 5` / `1970-01-01 00:00:05` -/
def exZone : Zone :=
  { transitions := #[
      { unixTime := 0, typeIndex := 0, civilSec := ⟨1970, 1, 1, 0, 0, 0⟩, prevCivilSec := ⟨1969, 12, 31, 23, 59, 59⟩ },
      { unixTime := 10, typeIndex := 1, civilSec := ⟨1970, 1, 1, 1, 0, 10⟩, prevCivilSec := ⟨1970, 1, 1, 0, 0, 9⟩ },
      { unixTime := 20, typeIndex := 0, civilSec := ⟨1970, 1, 1, 1, 0, 20⟩, prevCivilSec := ⟨1970, 1, 1, 1, 0, 19⟩ }],
    types := #[{ utcOffset := 0, isDst := false, abbrIndex := 0 }, { utcOffset := 3600, isDst := true, abbrIndex := 4 }],
    defaultType := 0, abbreviations := [85, 84, 67, 0, 68, 83, 84, 0] }

theorem exZone_wf : TableWF exZone := Lt.tableWFb_sound _ (by decide)

theorem exZone_civilSorted : CivilSorted exZone := Lt.civilSortedb_sound _ (by decide)

example : (breakTime exZone 1 5).val = (breakTime exZone 0 5).val := by decide
example : (breakTime exZone 2 5).val.1 = (breakTime exZone 0 5).val.1 ∧
    (breakTime exZone 2 5).val.2 ≠ 2 := by decide

end Cctz.C14
