/-
  C08Lex helper proofs: the cursor of `formatLoop` (indices into the array) against the suffix view
  of the specification (`takeWhile` / `dropWhile` on the remaining bytes).
-/
import Cctz.Proofs.FmLoop
import Cctz.Proofs.LexSegs

namespace Cctz.Lx
open Cctz Cctz.Bytes Cctz.Format Cctz.Spec Cctz.Spec.Lex Cctz.Fm

theorem drop_length_takeWhile {α} (p : α → Bool) (l : List α) : l.drop (l.takeWhile p).length = l.dropWhile p := by
  induction l with
  | nil => rfl
  | cons a l ih =>
    by_cases h : p a
    · simp [List.takeWhile, List.dropWhile, h, ih]
    · simp [List.takeWhile, List.dropWhile, h]

theorem take_length_takeWhile {α} (p : α → Bool) (l : List α) : l.take (l.takeWhile p).length = l.takeWhile p := by
  induction l with
  | nil => rfl
  | cons a l ih =>
    by_cases h : p a
    · simp [List.takeWhile, h, ih]
    · simp [List.takeWhile, h]

theorem takeWhile_eq_replicate (l : Bytes) : l.takeWhile (· = 37) = pcts (l.takeWhile (· = 37)).length := by
  induction l with
  | nil => rfl
  | cons a l ih =>
    by_cases h : a = 37
    · subst h
      simp only [List.takeWhile, decide_true, List.length_cons, pcts, List.replicate_succ]
      exact congrArg _ ih
    · simp [List.takeWhile, h, pcts]

theorem headD_dropWhile_ne (l : Bytes) : (l.dropWhile (· = 37)).headD 0 ≠ 37 := by
  induction l with
  | nil => decide
  | cons a l ih =>
    by_cases h : a = 37
    · simpa [List.dropWhile, h] using ih
    · simp [List.dropWhile, h]

section
variable (fmt : Array UInt8)

theorem slice_eq (a b : Nat) : slice fmt a b = (fmt.toList.drop a).take (b - a) := by
  simp [slice, List.take_drop]

theorem chAt_eq (i : Nat) : chAt fmt i = (fmt.toList.drop i).headD 0 := by
  simp [chAt]

theorem drop_cons (i : Nat) (h : i < fmt.size) : fmt.toList.drop i = chAt fmt i :: fmt.toList.drop (i + 1) := by
  rw [List.drop_eq_getElem_cons (by simpa using h)]
  simp [chAt, h]

theorem drop_eq_nil_iff (i : Nat) (h : i ≤ fmt.size) : fmt.toList.drop i = [] ↔ i = fmt.size := by
  rw [List.drop_eq_nil_iff]; simp; omega

theorem chAt_ge (i : Nat) (h : fmt.size ≤ i) : chAt fmt i = 0 := by
  simp [chAt, Array.getElem?_eq_none h]

theorem chAt_ne_zero_lt (i : Nat) (h : chAt fmt i ≠ 0) : i < fmt.size :=
  Nat.lt_of_not_le fun hi => h (chAt_ge fmt i hi)

theorem slice_split (a b c : Nat) (h1 : a ≤ b) (h2 : b ≤ c) :
    slice fmt a c = slice fmt a b ++ slice fmt b c := by
  rw [slice_eq, slice_eq, slice_eq]
  have : c - a = (b - a) + (c - b) := by omega
  rw [this, List.take_add, List.drop_drop]
  congr 3
  omega

/-- a scan from `i` stops after the longest prefix of the suffix whose bytes satisfy `p` -/
theorem skipTo_scan (pct : Bool) (p : UInt8 → Bool) (hp : ∀ c, p c = (decide (c = 37) == pct)) :
    ∀ (f i : Nat), i ≤ fmt.size → fmt.size - i < f →
      skipTo fmt i pct f = i + ((fmt.toList.drop i).takeWhile p).length := by
  intro f
  induction f with
  | zero => intro i _ h; omega
  | succ f ih =>
    intro i hi hf
    rw [skipTo_succ]
    by_cases he : i = fmt.size
    · rw [if_neg (fun h => h.1 he)]
      have : fmt.toList.drop i = [] := (drop_eq_nil_iff fmt i hi).2 he
      rw [this]; rfl
    · have hlt : i < fmt.size := by omega
      rw [drop_cons fmt i hlt]
      by_cases hc : (decide (chAt fmt i = 37) == pct) = true
      · rw [if_pos ⟨he, hc⟩, ih (i + 1) (by omega) (by omega)]
        have : p (chAt fmt i) = true := by rw [hp]; exact hc
        simp only [List.takeWhile_cons, this, if_true, List.length_cons]
        omega
      · rw [if_neg (fun h => hc h.2)]
        have : p (chAt fmt i) = false := by rw [hp]; simpa using hc
        simp only [List.takeWhile_cons, this, Bool.false_eq_true, if_false, List.length_nil]
        rfl

theorem ne37_eq (c : UInt8) : (decide (c ≠ 37)) = (decide (c = 37) == false) := by
  by_cases h : c = 37 <;> simp [h]
theorem eq37_eq (c : UInt8) : (decide (c = 37)) = (decide (c = 37) == true) := by
  by_cases h : c = 37 <;> simp [h]

/-- position of the next percent sign -/
def cur1 (cur : Nat) : Nat := cur + (leadText (fmt.toList.drop cur)).length
/-- position after the percent signs -/
def cur2 (cur : Nat) : Nat := cur1 fmt cur + pctCount (fmt.toList.drop cur)

theorem drop_cur1 (cur : Nat) : fmt.toList.drop (cur1 fmt cur) = fromPct (fmt.toList.drop cur) := by
  unfold cur1
  rw [← List.drop_drop, drop_length_takeWhile]

theorem drop_cur2 (cur : Nat) : fmt.toList.drop (cur2 fmt cur) = afterPcts (fmt.toList.drop cur) := by
  unfold cur2
  rw [← List.drop_drop, drop_cur1, drop_length_takeWhile]

theorem cur1_le (cur : Nat) (h : cur ≤ fmt.size) : cur1 fmt cur ≤ fmt.size := by
  unfold cur1
  have : (leadText (fmt.toList.drop cur)).length ≤ (fmt.toList.drop cur).length :=
    (List.takeWhile_prefix (l := fmt.toList.drop cur) (· ≠ 37)).length_le
  simp only [List.length_drop, Array.length_toList] at this
  omega

theorem cur2_le (cur : Nat) (h : cur ≤ fmt.size) : cur2 fmt cur ≤ fmt.size := by
  have h1 := cur1_le fmt cur h
  unfold cur2 pctCount
  have := (List.takeWhile_prefix (l := fromPct (fmt.toList.drop cur)) (· = 37)).length_le
  rw [← drop_cur1] at this
  simp only [List.length_drop, Array.length_toList] at this
  rw [← drop_cur1]
  omega

theorem cur_lt_cur2 (cur : Nat) (h : cur < fmt.size) : cur < cur2 fmt cur := by
  unfold cur2 cur1 pctCount fromPct leadText
  rw [drop_cons fmt cur h]
  by_cases hc : chAt fmt cur = 37
  · simp [List.takeWhile, List.dropWhile, hc]
  · simp only [List.takeWhile, hc, ne_eq, not_false_eq_true, decide_true, List.length_cons]
    omega

theorem skip1 (cur : Nat) (h : cur ≤ fmt.size) : skipTo fmt cur false (fmt.size + 1) = cur1 fmt cur :=
  skipTo_scan fmt false (· ≠ 37) ne37_eq _ _ h (by omega)

theorem skip2 (cur : Nat) (h : cur ≤ fmt.size) : skipTo fmt (cur1 fmt cur) true (fmt.size + 1) = cur2 fmt cur := by
  rw [skipTo_scan fmt true (· = 37) eq37_eq _ _ (cur1_le fmt cur h) (by omega), drop_cur1]
  rfl

theorem slice_leadText (cur : Nat) : slice fmt cur (cur1 fmt cur) = leadText (fmt.toList.drop cur) := by
  rw [slice_eq]
  unfold cur1
  rw [Nat.add_sub_cancel_left, take_length_takeWhile]

theorem fromPct_eq (s : Bytes) : fromPct s = pcts (pctCount s) ++ afterPcts s := by
  have := List.takeWhile_append_dropWhile (p := (· = 37)) (l := fromPct s)
  rw [takeWhile_eq_replicate] at this
  exact this.symm

theorem slice_pcts (cur j : Nat) (hj : j ≤ pctCount (fmt.toList.drop cur)) :
    slice fmt (cur1 fmt cur) (cur1 fmt cur + j) = pcts j := by
  rw [slice_eq, Nat.add_sub_cancel_left, drop_cur1]
  rw [fromPct_eq, List.take_append_of_le_length (by simpa [pcts] using hj)]
  simp only [pcts, List.take_replicate]
  congr 1
  omega

theorem chAt_cur2_ne (cur : Nat) : chAt fmt (cur2 fmt cur) ≠ 37 := by
  rw [chAt_eq, drop_cur2]
  exact headD_dropWhile_ne _

theorem chAt_pct (cur j : Nat) (hj : j < pctCount (fmt.toList.drop cur)) : chAt fmt (cur1 fmt cur + j) = 37 := by
  rw [chAt_eq, ← List.drop_drop, drop_cur1, fromPct_eq, List.drop_append_of_le_length (by simp [pcts]; omega)]
  simp only [pcts, List.drop_replicate]
  have : pctCount (fmt.toList.drop cur) - j = (pctCount (fmt.toList.drop cur) - j - 1) + 1 := by omega
  rw [this, List.replicate_succ]
  rfl

end

section
variable (sf : Strftime) (tm : Tm)

theorem render_append (a b : List Seg) : render sf tm (a ++ b) = render sf tm a ++ render sf tm b :=
  List.flatMap_append
theorem render_nil : render sf tm [] = [] := rfl
theorem render_lit (b : Bytes) : render sf tm [.lit b] = b := by simp [render]
theorem render_cons_lit (b : Bytes) (l : List Seg) : render sf tm (.lit b :: l) = b ++ render sf tm l := by
  simp [render]

variable (fmt : Array UInt8)

theorem prep_run (st : St) (hc : st.cur ≤ fmt.size) (hp : st.pending ≠ st.cur) :
    prep fmt st = (st.out, st.pending, cur2 fmt st.cur, cur1 fmt st.cur) := by
  refine prep_eq fmt st _ _ st.out st.pending st.cur _ _ (skip1 fmt _ hc) (skip2 fmt _ hc) ?_ ?_
  · simp [prep1, hp]
  · simp [prep2, hp]

/-- what the cursor phase emits when no run is open: the text before the percent signs, half of
the percent signs, and a lone '%' that ends the string -/
def prepSegs (cur : Nat) : List Seg :=
  (if leadText (fmt.toList.drop cur) = [] then [] else [.lit (leadText (fmt.toList.drop cur))]) ++
    if pctCount (fmt.toList.drop cur) = 0 then [] else
      .lit (pcts (pctCount (fmt.toList.drop cur) / 2)) ::
        if pctCount (fmt.toList.drop cur) % 2 = 1 ∧ cur2 fmt cur = fmt.size then [.lit [37]] else []

/-- … and where `pending` stands then: on a lone '%' that does not end the string, else at `cur2` -/
def prepPending (cur : Nat) : Nat :=
  if pctCount (fmt.toList.drop cur) % 2 = 1 ∧ cur2 fmt cur ≠ fmt.size then cur2 fmt cur - 1 else cur2 fmt cur

theorem prep_norun (st : St) (hc : st.cur ≤ fmt.size) (hp : st.pending = st.cur) :
    prep fmt st = (st.out ++ prepSegs fmt st.cur, prepPending fmt st.cur, cur2 fmt st.cur, cur1 fmt st.cur) := by
  unfold prepSegs prepPending
  generalize hk : pctCount (fmt.toList.drop st.cur) = k
  have hc2 : cur2 fmt st.cur = cur1 fmt st.cur + k := by rw [← hk]; rfl
  have hlen : cur1 fmt st.cur = st.cur + (leadText (fmt.toList.drop st.cur)).length := rfl
  refine prep_eq fmt st _ _ (st.out ++ if leadText (fmt.toList.drop st.cur) = [] then [] else
    [.lit (leadText (fmt.toList.drop st.cur))]) (cur1 fmt st.cur) (cur1 fmt st.cur) _ _ (skip1 fmt _ hc) (skip2 fmt _ hc) ?_ ?_
  · unfold prep1
    by_cases h : leadText (fmt.toList.drop st.cur) = []
    · have : cur1 fmt st.cur = st.cur := by rw [hlen, h]; rfl
      rw [if_neg (fun h' => h'.1 this), if_pos h, List.append_nil, hp, this]
    · have : cur1 fmt st.cur ≠ st.cur := by
        have := List.length_pos_iff.2 h
        omega
      rw [if_pos ⟨this, hp⟩, if_neg h, hp, slice_leadText]
  · unfold prep2
    by_cases hk0 : k = 0
    · rw [if_neg (fun h' => h'.1 (by omega)), if_pos hk0,
        if_neg (show ¬ (k % 2 = 1 ∧ cur2 fmt st.cur ≠ fmt.size) by omega), List.append_nil, hc2, hk0]; rfl
    · rw [if_pos ⟨by omega, rfl⟩, if_neg hk0]
      simp only [show cur2 fmt st.cur - cur1 fmt st.cur = k by omega, slice_pcts fmt st.cur (k / 2) (by omega)]
      by_cases hodd : k % 2 = 1 ∧ cur2 fmt st.cur = fmt.size
      · rw [if_pos ⟨by omega, hodd.2⟩, if_pos hodd,
          if_neg (show ¬ (k % 2 = 1 ∧ cur2 fmt st.cur ≠ fmt.size) by omega), chAt_pct fmt _ _ (by omega)]
        simp only [List.append_assoc, List.cons_append, List.nil_append, Prod.mk.injEq, true_and]
        omega
      · rw [if_neg (show ¬ (cur1 fmt st.cur + k / 2 * 2 ≠ cur2 fmt st.cur ∧ cur2 fmt st.cur = fmt.size) by omega),
          if_neg hodd]
        simp only [List.append_assoc, List.cons_append, List.nil_append, Prod.mk.injEq, true_and]
        split <;> omega

theorem render_prepSegs (cur : Nat) :
    render sf tm (prepSegs fmt cur) = leadText (fmt.toList.drop cur) ++ pcts (pctCount (fmt.toList.drop cur) / 2) ++
      (if pctCount (fmt.toList.drop cur) % 2 = 1 ∧ cur2 fmt cur = fmt.size then [37] else []) := by
  unfold prepSegs
  rw [render_append]
  by_cases h : leadText (fmt.toList.drop cur) = []
  · by_cases hk : pctCount (fmt.toList.drop cur) = 0
    · simp [h, hk, render, pcts]
    · by_cases ho : pctCount (fmt.toList.drop cur) % 2 = 1 ∧ cur2 fmt cur = fmt.size <;> simp [h, hk, ho, render]
  · by_cases hk : pctCount (fmt.toList.drop cur) = 0
    · simp [h, hk, render, pcts]
    · by_cases ho : pctCount (fmt.toList.drop cur) % 2 = 1 ∧ cur2 fmt cur = fmt.size <;> simp [h, hk, ho, render]

end

/-- a byte of text in front shifts the reading by one -/
theorem scan_text (fmt : Array UInt8) (p : Nat) (h : p < fmt.size) (h1 : chAt fmt p ≠ 37) :
    leadText (fmt.toList.drop p) = chAt fmt p :: leadText (fmt.toList.drop (p + 1)) ∧
    pctCount (fmt.toList.drop p) = pctCount (fmt.toList.drop (p + 1)) := by
  rw [drop_cons fmt p h]
  generalize chAt fmt p = c at h1
  simp [leadText, pctCount, fromPct, List.takeWhile, List.dropWhile, h1]

theorem scan_pct (fmt : Array UInt8) (p : Nat) (h : p + 1 < fmt.size) (h1 : chAt fmt p = 37)
    (h2 : chAt fmt (p + 1) ≠ 37) : leadText (fmt.toList.drop p) = [] ∧ pctCount (fmt.toList.drop p) = 1 := by
  rw [drop_cons fmt p (by omega), drop_cons fmt (p + 1) h, h1]
  generalize chAt fmt (p + 1) = c at h2
  simp [leadText, pctCount, fromPct, List.takeWhile, List.dropWhile, h2]

theorem leadText_of_no37 (b : Bytes) (hb : ∀ c ∈ b, c ≠ 37) : leadText b = b ∧ fromPct b = [] := by
  have := List.takeWhile_append_of_pos (p := (· ≠ 37)) (l₁ := b) (l₂ := []) (by simpa using hb)
  have := List.dropWhile_append_of_pos (p := (· ≠ 37)) (l₁ := b) (l₂ := []) (by simpa using hb)
  simp_all [leadText, fromPct]

section
variable {fmt : Array UInt8} {al : Tz.AbsLookup} {tm : Tm} {t fs : Int}

theorem cur2_sub (cur : Nat) : cur2 fmt cur - cur1 fmt cur = pctCount (fmt.toList.drop cur) := by
  unfold cur2; omega

/-- no run is open and the percent signs pair up (or end the string): the iteration only emits
text and moves on -/
theorem iteration_even {fuel : Nat} (st : St) (hc : st.cur < fmt.size) (hpe : st.pending = st.cur)
    (hodd : cur2 fmt st.cur = fmt.size ∨ pctCount (fmt.toList.drop st.cur) % 2 = 0) :
    formatLoop fmt al tm t fs (fuel + 1) st =
      formatLoop fmt al tm t fs fuel ⟨st.out ++ prepSegs fmt st.cur, cur2 fmt st.cur, cur2 fmt st.cur⟩ := by
  have hp2 : prepPending fmt st.cur = cur2 fmt st.cur := by
    unfold prepPending; rw [if_neg]; rintro ⟨a, b⟩; rcases hodd with h | h <;> omega
  rw [loop_step _ _ _ _ _ _ _ _ _ _ _ (Nat.ne_of_lt hc) (prep_norun fmt st (Nat.le_of_lt hc) hpe),
    specTail_val_loop _ _ _ _ _ _ _ _ _ _ (by rw [cur2_sub]; exact hodd), hp2]

end

end Cctz.Lx
