/-
  C07Class helper proofs, parse side: the parser state seen through the fields of the class — when a
  field of the state equals what lookup() reported, and what reading one item does to that.
-/
import Cctz.Proofs.RtClassDefs

namespace Cctz.Rtc
open Cctz Cctz.Bytes Cctz.Format Cctz.Parse Cctz.Spec

/-- the field `f` of the parser state is what lookup() reported (for %s: the instant) -/
def holdsF (al : Tz.AbsLookup) (t fs : Int) (st : PState) : Fld → Prop
  | .year => st.sawYear = true ∧ st.year = al.cs.y
  | .month => st.tm.mon = al.cs.m - 1
  | .day => st.tm.mday = al.cs.d
  | .hour => st.tm.hour = al.cs.hh
  | .minute => st.tm.min = al.cs.mm
  | .second => st.tm.sec = al.cs.ss
  | .frac => st.subseconds = fs
  | .offset => st.sawOffset = true ∧ st.offset = al.offset
  | .unix => st.sawPercentS = true ∧ st.percentS = t

/-- what no item of the class disturbs -/
def Stat (fs : Int) (st : PState) : Prop :=
  st.weekNum = -1 ∧ st.twelveHour = false ∧ (st.subseconds = 0 ∨ st.subseconds = fs)

def carried (it : Item) : List Fld :=
  [Fld.year, .month, .day, .hour, .minute, .second, .frac, .offset, .unix].filter (sets it)

theorem mem_carried {it : Item} {f : Fld} : f ∈ carried it ↔ sets it f = true := by
  unfold carried
  rw [List.mem_filter]
  exact ⟨fun h => h.2, fun h => ⟨by cases f <;> decide, h⟩⟩

/-- `st'` is `st` after the text of `it` was read: `rest` is left of the data, `f'` of the format;
the fields the item carries are right, those that were right before still are -/
structure StepOK (al : Tz.AbsLookup) (t fs : Int) (it : Item) (st : PState) (rest f' : Bytes) (st' : PState) :
    Prop where
  data : st'.data = some rest
  fmt : st'.fmt = f'
  mono : ∀ f, holdsF al t fs st f → holdsF al t fs st' f
  wrote : ∀ f ∈ carried it, holdsF al t fs st' f
  stat : Stat fs st'
  nounix : sets it .unix = false → st.sawPercentS = false → st'.sawPercentS = false

/-! ### writing a field

Every conversion of the class writes the value lookup() reported, so a field that was right stays
right whether the item carries it or not. -/

def put (al : Tz.AbsLookup) (t fs : Int) (st : PState) : Fld → PState
  | .year => { st with year := al.cs.y, sawYear := true }
  | .month => { st with tm := { st.tm with mon := al.cs.m - 1 } }
  | .day => { st with tm := { st.tm with mday := al.cs.d } }
  | .hour => { st with tm := { st.tm with hour := al.cs.hh } }
  | .minute => { st with tm := { st.tm with min := al.cs.mm } }
  | .second => { st with tm := { st.tm with sec := al.cs.ss } }
  | .frac => { st with subseconds := fs }
  | .offset => { st with offset := al.offset, sawOffset := true }
  | .unix => { st with percentS := t, sawPercentS := true }

variable {al : Tz.AbsLookup} {t fs : Int}

theorem holdsF_put (st : PState) (f g : Fld) (h : g = f ∨ holdsF al t fs st g) :
    holdsF al t fs (put al t fs st f) g := by
  rcases h with rfl | h
  · cases g <;> first | rfl | exact ⟨rfl, rfl⟩
  · cases f <;> cases g <;> first | exact h | rfl | exact ⟨rfl, rfl⟩

theorem stat_put (st : PState) (f : Fld) (h : Stat fs st) : Stat fs (put al t fs st f) := by
  cases f
  case frac => exact ⟨h.1, h.2.1, Or.inr rfl⟩
  all_goals exact h

theorem sawPercentS_put (st : PState) (f : Fld) (h : f ≠ .unix) :
    (put al t fs st f).sawPercentS = st.sawPercentS := by
  cases f
  case unix => exact absurd rfl h
  all_goals rfl

theorem holdsF_puts (F : List Fld) : ∀ (st : PState) (g : Fld), g ∈ F ∨ holdsF al t fs st g →
    holdsF al t fs (F.foldl (put al t fs) st) g := by
  induction F with
  | nil => exact fun st g h => h.resolve_left List.not_mem_nil
  | cons f F ih =>
    intro st g h
    refine ih _ g ?_
    rcases h with h | h
    · exact (List.mem_cons.1 h).symm.imp_right fun h => holdsF_put st f g (Or.inl h)
    · exact Or.inr (holdsF_put st f g (Or.inr h))

theorem stat_puts (F : List Fld) : ∀ st : PState, Stat fs st → Stat fs (F.foldl (put al t fs) st) := by
  induction F with
  | nil => exact fun _ h => h
  | cons f F ih => exact fun st h => ih _ (stat_put st f h)

theorem sawPercentS_puts (F : List Fld) : ∀ st : PState, .unix ∉ F →
    (F.foldl (put al t fs) st).sawPercentS = st.sawPercentS := by
  induction F with
  | nil => exact fun _ _ => rfl
  | cons f F ih =>
    intro st h
    rw [List.mem_cons, not_or] at h
    exact (ih _ h.2).trans (sawPercentS_put st f (Ne.symm h.1))

/-- the states `stepSpec` returns: the fields the item carries written, the cursors moved; the
week number and the 12-hour flag may be reset -/
theorem stepOK_put {it : Item} (F : List Fld) (hc : carried it = F) (st : PState) (rest f' : Bytes)
    (hs : Stat fs st) (g : List (UInt8 × Int)) (w : Int) (tw : Bool) (hw : w = -1) (htw : tw = false) :
    StepOK al t fs it st rest f'
      { F.foldl (put al t fs) st with
        data := some rest, fmt := f', ghost := g, weekNum := w, twelveHour := tw } := by
  subst hc
  obtain ⟨_, _, h3⟩ := stat_puts (carried it) st hs
  refine ⟨rfl, rfl, fun f h => holdsF_puts _ st f (Or.inr h), fun f h => holdsF_puts _ st f (Or.inl h),
    ⟨hw, htw, h3⟩, fun hu h => ?_⟩
  exact (sawPercentS_puts _ st (fun hm => by rw [mem_carried, hu] at hm; cases hm)).trans h

end Cctz.Rtc
