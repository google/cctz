/-
  C07Class helper proofs, parse side: ONE lemma for all conversions of the class — on the text of
  the conversion (possibly with its leading white space skipped), followed by anything that meets the
  follow condition, `stepSpec` consumes exactly that text and leaves the fields it carries equal to
  what lookup() reported.
-/
import Cctz.Proofs.RtClassFrac
import Cctz.Proofs.RtClassOff
import Cctz.Proofs.RtClassHead

namespace Cctz.Rtc
open Cctz Cctz.Bytes Cctz.Format Cctz.Parse Cctz.Spec Cctz.Spec.Lex Cctz.Pa Cctz.Wr Cctz.Rt

variable (sp : Strptime) {al : Tz.AbsLookup} {t fs : Int} (E : Env al t fs) (st : PState) (rest f' : Bytes)
include E

/-! ### `%e`

A day below 10 is written with a padding blank.  The blank counts toward the width 2; when it was
skipped with the white space before it, the digit is read with width 2 and no digit may follow. -/

theorem reads_e (ws : Bool) (d : Bytes) (hf : st.fmt = 37 :: (spellC .e ++ f'))
    (hd : d = renderConv (toConv .e) al t fs ++ rest ∨
      (ws = true ∧ d = skipSpace (renderConv (toConv .e) al t fs ++ rest)))
    (hfd : ws = true → isDigit (rest.headD 0) = false) (hs : Stat fs st) :
    StepOK al t fs (.conv .e) st rest f' (stepSpec sp st d) := by
  obtain ⟨_, _, hd1, hd2, _⟩ := E.bounds
  have hr : renderConv (toConv .e) al t fs =
      (if al.cs.d < 10 then 32 :: decNat al.cs.d.toNat else decNat al.cs.d.toNat) := rfl
  rw [hr] at hd
  have hn : ((al.cs.d.toNat : Nat) : Int) = al.cs.d := by omega
  generalize al.cs.d.toNat = n at hd hn
  have hdig := decNat_digits n
  obtain ⟨c, r, hc, hcd⟩ := AllDigits.head hdig (decNat_ne_nil n)
  have hsk : skipSpace (decNat n ++ rest) = decNat n ++ rest :=
    skipSpace_append_ns _ rest c r hc (digit_not_space c hcd)
  have hc32 : (decNat n ++ rest).headD 0 ≠ 32 := by
    rw [hc, List.cons_append, List.headD_cons]; intro h; rw [h] at hcd; cases hcd
  have hl0 : 0 < (decNat n).length := List.length_pos_iff.2 (decNat_ne_nil n)
  have hl1 := decNat_length_le n 1 (by decide)
  have hl2 := decNat_length_le n 2 (by decide)
  have hp : ∀ w : Int, (((decNat n).length : Int) = w ∨
        (((decNat n).length : Int) < w ∧ isDigit (rest.headD 0) = false)) →
      parseInt32 (decNat n ++ rest) w 1 31 = some (rest, al.cs.d) := fun w hw => by
    have hv := nv_decNat n
    rw [← hn, ← hv]
    exact parseInt_digits i32min (by decide) _ rest w 1 31 hdig (decNat_ne_nil n) hw
      (by unfold i32min; omega) (by omega) (by omega)
  have key : stepSpec sp st d =
      { st with data := some rest, fmt := f', ghost := st.ghost ++ [(101, al.cs.d)],
                tm := { st.tm with mday := al.cs.d }, weekNum := -1 } := by
    by_cases h10 : al.cs.d < 10
    · rw [if_pos h10, List.cons_append, skipSpace_cons_sp _ _ (by decide), hsk] at hd
      rcases hd with hd | ⟨hws, hd⟩ <;> subst hd
      · exact stepSpec_e_pad sp st _ _ rest f' hf (hp 1 (Or.inl (by omega)))
      · exact stepSpec_e sp st _ _ rest f' hf hc32 (hp 2 (Or.inr ⟨by omega, hfd hws⟩))
    · rw [if_neg h10, hsk] at hd
      have hd' : d = decNat n ++ rest := by rcases hd with hd | ⟨_, hd⟩ <;> exact hd
      subst hd'
      exact stepSpec_e sp st _ _ rest f' hf hc32 (hp 2 (Or.inl (by omega)))
  rw [key]
  exact stepOK_put [.day] rfl st rest f' hs _ _ _ rfl hs.2.1

/-! ### all conversions -/

theorem step_conv (k : CK) (hv : (Item.conv k).valid) (ws : Bool) (d : Bytes)
    (hf : st.fmt = 37 :: (spellC k ++ f'))
    (hd : d = renderConv (toConv k) al t fs ++ rest ∨
      (ws = true ∧ d = skipSpace (renderConv (toConv k) al t fs ++ rest)))
    (hfd : (Item.conv k).noDigitAfter ws = true → isDigit (rest.headD 0) = false)
    (hfp : (Item.conv k).noDotAfter = true → rest.headD 0 ≠ 46)
    (hfc : (Item.conv k).noColonAfter = true → rest.headD 0 ≠ 58)
    (hmin : (Item.conv k).wholeMinutes = true → al.offset % 60 = 0)
    (hy4 : (Item.conv k).fourCharYear = true → -999 ≤ al.cs.y ∧ al.cs.y ≤ 9999)
    (hs : Stat fs st) :
    StepOK al t fs (.conv k) st rest f' (stepSpec sp st d) := by
  by_cases hke : k = .e
  · subst hke
    exact reads_e sp E st rest f' ws d hf hd hfd hs
  · -- the text does not begin with white space, so none was skipped
    obtain ⟨_, c, r, hc, _, _, hsp, _⟩ := rk_shape E k hv
    have hd' : d = renderConv (toConv k) al t fs ++ rest := by
      rcases hd with hd | ⟨_, hd⟩
      · exact hd
      · rw [hd, skipSpace_append_ns _ rest c r hc (hsp hke)]
    subst hd'
    obtain ⟨hm1, hm2, hd1, hd2, hh1, hh2, hmm1, hmm2, hs1, hs2⟩ := E.bounds
    cases k with
    | e => exact absurd rfl hke
    | Y =>
      rw [show renderConv (toConv .Y) al t fs = format64 0 al.cs.y from (Fm.format64_zero _).symm,
        stepSpec_Y sp st _ rest f' hf E.yr (hfd rfl)]
      exact stepOK_put [.year] rfl st rest f' hs _ _ _ hs.1 hs.2.1
    | s =>
      rw [show renderConv (toConv .s) al t fs = format64 0 t from (Fm.format64_zero _).symm,
        stepSpec_s sp st _ rest f' hf E.tr (hfd rfl)]
      exact stepOK_put [.unix] rfl st rest f' hs _ _ _ hs.1 hs.2.1
    -- two digits are read with width 2, whatever follows
    | m =>
      rw [show renderConv (toConv .m) al t fs = (format02d al.cs.m).val from two_eq _ (by omega) (by omega),
        stepSpec_m sp st _ rest f' hf hm1 hm2]
      exact stepOK_put [.month] rfl st rest f' hs _ _ _ rfl hs.2.1
    | d =>
      rw [show renderConv (toConv .d) al t fs = (format02d al.cs.d).val from two_eq _ (by omega) (by omega),
        stepSpec_d sp st _ rest f' hf hd1 hd2]
      exact stepOK_put [.day] rfl st rest f' hs _ _ _ rfl hs.2.1
    | H =>
      rw [show renderConv (toConv .H) al t fs = (format02d al.cs.hh).val from two_eq _ hh1 (by omega),
        stepSpec_H sp st _ rest f' hf hh1 hh2]
      exact stepOK_put [.hour] rfl st rest f' hs _ _ _ hs.1 rfl
    | M =>
      rw [show renderConv (toConv .M) al t fs = (format02d al.cs.mm).val from two_eq _ hmm1 (by omega),
        stepSpec_M sp st _ rest f' hf hmm1 hmm2]
      exact stepOK_put [.minute] rfl st rest f' hs _ _ _ hs.1 hs.2.1
    | S =>
      rw [show renderConv (toConv .S) al t fs = (format02d al.cs.ss).val from two_eq _ hs1 (by omega),
        stepSpec_S sp st _ rest f' hf hs1 hs2]
      exact stepOK_put [.second] rfl st rest f' hs _ _ _ hs.1 hs.2.1
    | secStar => exact reads_secStar sp E st rest f' hf (hfd rfl) (hfp rfl) hs
    | secN n => exact reads_secN sp E st rest f' n hv hf (hfd rfl) hs
    | fracStar => exact reads_fracStar sp E st rest f' hf (hfd rfl) hs
    | fracN n => exact reads_fracN sp E st rest f' n hv hf (hfd rfl) hs
    | zStar | zColon | zColon3 | zE | zColon1 | z => exact reads_offset sp st rest f' E _ rfl ws hf hfd hfc hmin hs
    | y4 => exact reads_y4 sp st rest f' hf (hy4 rfl).1 (hy4 rfl).2 hs
    | eT =>
      rw [show renderConv (toConv .eT) al t fs = [84] from rfl, List.singleton_append,
        stepSpec_ET sp st rest f' hf]
      exact stepOK_put [] rfl st rest f' hs _ _ _ hs.1 hs.2.1

end Cctz.Rtc
