/-
  C18 — Sub-second time points floor toward the past, never toward zero.
  `/` and `%` in the statements are floor division and non-negative remainder.
-/
import Cctz.Model.Split
import Cctz.Proofs.SplitJoin

namespace Cctz.C18
open Cctz

/-- split_seconds of a tick count `c` of period `N/D` seconds (all panel types have `N = 1` or
`D = 1`): the whole second at or below the instant (`⌊c·N/D⌋`, not the truncation toward zero)
and the non-negative remainder, with `sec · 1s + sub · (N/D)s = c · (N/D)s` exactly -/
def split_floor_statement : Prop :=
  ∀ N D c : Int, 0 < N → 0 < D → (N = 1 ∨ D = 1) →
    let r := (Split.splitSeconds N D c).val
    r.1 = (c * N) / D ∧ 0 ≤ r.2 ∧ r.2 * N < D ∧ r.1 * D + r.2 * N = c * N

/-- no undefined operation when the tick count and the values formed from it fit int64 -/
def split_ok_statement : Prop :=
  ∀ N D c : Int, 0 < N → 0 < D → (N = 1 ∨ D = 1) → inI64 c → inI64 (c * N) → inI64 D →
    inI64 ((c * N) / D - 1) → inI64 (((c * N) / D + 1) * D) →
    (Split.splitSeconds N D c).ok

/-- join_seconds into a type of whole `Num`-second ticks (`Num ≥ 1`) with representation range
`[lo, hi]`: the floor of `sec / Num` when it fits, failure (never a wrapped value) otherwise -/
def join_coarse_statement : Prop :=
  ∀ Num lo hi sec : Int, 1 ≤ Num →
    Split.joinCoarse Num lo hi sec = (if lo ≤ sec / Num ∧ sec / Num ≤ hi then some (sec / Num) else none)

def join_rep_statement : Prop :=
  ∀ lo hi sec : Int,
    Split.joinSecondsRep lo hi sec = (if lo ≤ sec ∧ sec ≤ hi then some sec else none)

/-- the femtosecond remainder handed to format for decimal sub-second ticks (`N = 1`, `D` a
divisor of 10^15): exact, in `[0, 10^15)` -/
def femto_statement : Prop :=
  ∀ D sub : Int, 0 < D → 1000000000000000 % D = 0 → 0 ≤ sub → sub < D →
    (Split.subToFemto 1 D sub).val = sub * (1000000000000000 / D) ∧
    0 ≤ (Split.subToFemto 1 D sub).val ∧ (Split.subToFemto 1 D sub).val < 1000000000000000

theorem split_floor : split_floor_statement := by
  intro N D c hN hD hND
  rcases hND with h | h
  · subst h
    have hm := Int.emod_nonneg c (by omega : D ≠ 0)
    have hl := Int.emod_lt_of_pos c hD
    have e := Split.sub_ediv_mul c D
    simp only [Split.splitSeconds_N1_val D c hD, Int.mul_one]
    refine ⟨trivial, hm, hl, ?_⟩
    omega
  · subst h
    simp only [Split.splitSeconds_D1_val N c, Int.mul_one, Int.ediv_one, Int.zero_mul]
    refine ⟨trivial, ?_, ?_, ?_⟩ <;> omega

theorem split_ok : split_ok_statement := by
  intro N D c hN hD hND hc hcN hD2 h4 h5
  rcases hND with h | h
  · subst h
    rw [Int.mul_one] at h4 h5
    exact Split.splitSeconds_N1_ok D c hD hc hD2 h4 h5
  · subst h
    exact Split.splitSeconds_D1_ok N c hcN

/-- the hypotheses of `split_ok` are satisfiable (nanosecond ticks, a negative count) -/
example : inI64 (-1500000000 : Int) ∧ inI64 ((-1500000000 : Int) * 1) ∧ inI64 (1000000000 : Int) ∧
    inI64 (((-1500000000 : Int) * 1) / 1000000000 - 1) ∧
    inI64 ((((-1500000000 : Int) * 1) / 1000000000 + 1) * 1000000000) ∧
    (Split.splitSeconds 1 1000000000 (-1500000000)).val = (-2, 500000000) := by decide

theorem join_rep : join_rep_statement := by
  intro lo hi sec
  unfold Split.joinSecondsRep
  by_cases h1 : sec > hi
  · rw [if_pos h1, if_neg (by omega)]
  · rw [if_neg h1]
    by_cases h2 : sec < lo
    · rw [if_pos h2, if_neg (by omega)]
    · rw [if_neg h2, if_pos (by omega)]

theorem join_coarse : join_coarse_statement := by
  intro Num lo hi sec hNum
  unfold Split.joinCoarse
  simp only [Split.joinCoarse_count Num sec hNum]
  exact join_rep lo hi (sec / Num)

theorem femto : femto_statement := by
  intro D sub hD hdvd h0 h1
  rw [Split.subToFemto_val D sub hD hdvd]
  obtain ⟨hm, hk, _⟩ := Split.tick_facts D hD hdvd
  have := Int.mul_lt_mul_of_pos_right h1 hm
  exact ⟨rfl, Int.mul_nonneg h0 (by omega), by omega⟩

/-- the hypotheses of `femto` are satisfiable (millisecond ticks) -/
example : (0 : Int) < 1000 ∧ (1000000000000000 : Int) % 1000 = 0 ∧
    (Split.subToFemto 1 1000 999).val = 999000000000000 := by decide

end Cctz.C18
