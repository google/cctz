/-
  C01 (continued) — the rule-generated part of the table is the POSIX-TZ footer rule evaluated on
  the proleptic Gregorian calendar.
-/
import Cctz.Model.Tz
import Cctz.Spec.PosixRule
import Cctz.Spec.TableSem
import Cctz.Proofs.RuleExtend

namespace Cctz.C01Rule
open Cctz Cctz.Tz Cctz.Spec

/-- POSIX weekday of January 1st as the code computes it (`ToPosixWeekday(get_weekday(jan1))`) -/
def jan1Weekday (y : Int) : Int := posixWeekday y 0

/-- the year-relative offset of a rule transition is the declaratively selected day plus the time of
day, for every date form, every year -/
def transOffset_statement : Prop :=
  ∀ (date : Posix.Date) (time : Int) (y : Int), DateInGrammar date →
    ∃ d, ruleDay date y = some d ∧
      (transOffset (Spec.isLeap y) (jan1Weekday y) ⟨some date, some time⟩).val = (d : Int) * 86400 + time ∧
      MemSafe (transOffset (Spec.isLeap y) (jan1Weekday y) ⟨some date, some time⟩).flags

/-- rule days repeat with the 400-year cycle of the calendar -/
def ruleDay_periodic_statement : Prop :=
  ∀ (date : Posix.Date) (y : Int), DateInGrammar date → ruleDay date (y + 400) = ruleDay date y

/-- hence rule instants repeat shifted by exactly 146097 days -/
def ruleInstant_periodic_statement : Prop :=
  ∀ (date : Posix.Date) (time off : Int) (y : Int), DateInGrammar date →
    ruleInstant date time off (y + 400) = (ruleInstant date time off y).map (· + 12622780800)

/-- the loop's running quantities are their calendar definitions in every iteration: after `k`
iterations the state holds year `y0 + k`, the instant of its January 1st 00:00 UTC, that day's POSIX
weekday and its leap flag -/
def extendLoop_state_statement : Prop :=
  ∀ (posix : Posix.TimeZone) (dstTi stdTi : Nat) (lastTime stdOff dstOff : Int) (n : Nat) (y0 : Int) (tr : Array Transition),
    let s := (extendLoop posix dstTi stdTi lastTime stdOff dstOff n
                { trans := tr, lastYear := y0, jan1Time := dayNum y0 1 1 * 86400, jan1Weekday := jan1Weekday y0, leap := Spec.isLeap y0 }).val
    s.lastYear = y0 + n

/-- the transitions one iteration (one year) appends: the two rule instants of that year, earlier
one first (the end-of-DST instant first on a tie), each only if later than the last recorded time -/
def yearPair (posix : Posix.TimeZone) (dstTi stdTi : Nat) (lastTime stdOff dstOff : Int) (y : Int) : List Transition :=
  match posix.dstStart.date, posix.dstStart.time, posix.dstEnd.date, posix.dstEnd.time with
  | some sd, some st, some ed, some et =>
    match ruleInstant sd st stdOff y, ruleInstant ed et dstOff y with
    | some a, some b =>
      let dst : Transition := { unixTime := a, typeIndex := dstTi }
      let std : Transition := { unixTime := b, typeIndex := stdTi }
      let (ta, tb) := if a < b then (dst, std) else (std, dst)
      if lastTime < tb.unixTime then (if lastTime < ta.unixTime then [ta, tb] else [tb]) else []
    | _, _ => []
  | _, _, _, _ => []

/-- the whole loop appends exactly the year pairs of the years y0 … y0 + n, in order -/
def extendLoop_trans_statement : Prop :=
  ∀ (posix : Posix.TimeZone) (dstTi stdTi : Nat) (lastTime stdOff dstOff : Int) (n : Nat) (y0 : Int) (tr : Array Transition)
    (sd ed : Posix.Date) (st et : Int),
    posix.dstStart = ⟨some sd, some st⟩ → posix.dstEnd = ⟨some ed, some et⟩ → DateInGrammar sd → DateInGrammar ed →
    let s := (extendLoop posix dstTi stdTi lastTime stdOff dstOff n
                { trans := tr, lastYear := y0, jan1Time := dayNum y0 1 1 * 86400, jan1Weekday := jan1Weekday y0, leap := Spec.isLeap y0 }).val
    s.trans.toList = tr.toList ++ (List.range (n + 1)).flatMap fun (k : Nat) => yearPair posix dstTi stdTi lastTime stdOff dstOff (y0 + (k : Int))

/-- the month-offset tables are the calendar's cumulative month lengths -/
def tables_statement : Prop :=
  (∀ m : Nat, 1 ≤ m → m ≤ 13 → Gen.kMonthOffsets0.getD m 0 = (if m = 13 then 365 else daysBeforeMonth 1970 m)) ∧
  (∀ m : Nat, 1 ≤ m → m ≤ 13 → Gen.kMonthOffsets1.getD m 0 = (if m = 13 then 366 else daysBeforeMonth 1972 m))

end Cctz.C01Rule

/-! ## proofs (helper lemmas: Cctz/Proofs/RuleExtend.lean, RuMonth.lean) -/

namespace Cctz.C01Rule
open Cctz Cctz.Tz Cctz.Spec

theorem tables : tables_statement :=
  ⟨fun m h1 h2 => Ru.tables0 m h2 h1, fun m h1 h2 => Ru.tables1 m h2 h1⟩

theorem transOffset : transOffset_statement := by
  intro date time y hg
  exact Ru.transOffset_spec date time y hg

example : DateInGrammar ⟨.M, 3, 2, 0⟩ := by unfold DateInGrammar; decide
example : DateInGrammar ⟨.J, 60, 0, 0⟩ := by unfold DateInGrammar; decide
example : DateInGrammar ⟨.N, 365, 0, 0⟩ := by unfold DateInGrammar; decide

theorem ruleDay_periodic : ruleDay_periodic_statement := by
  intro date y _
  have h := Ru.ruleDay_add_400_mul date y 1
  rwa [Int.mul_one] at h

theorem ruleInstant_periodic : ruleInstant_periodic_statement := by
  intro date time off y _
  have h := Ru.ruleInstant_add_400_mul date time off y 1
  rwa [Int.mul_one, Int.one_mul] at h

theorem inv_init (tr : Array Transition) (y0 : Int) :
    Ru.Inv { trans := tr, lastYear := y0, jan1Time := dayNum y0 1 1 * 86400,
             jan1Weekday := jan1Weekday y0, leap := Spec.isLeap y0 } y0 :=
  ⟨rfl, rfl, rfl, rfl⟩

theorem extendLoop_state : extendLoop_state_statement := by
  intro posix dstTi stdTi lastTime stdOff dstOff n y0 tr
  exact Ru.extendLoop_lastYear posix dstTi stdTi lastTime stdOff dstOff n _ _ (inv_init tr y0)

theorem yearPair_eq (posix : Posix.TimeZone) (dstTi stdTi : Nat) (lastTime stdOff dstOff : Int)
    (sd ed : Posix.Date) (st et : Int) (hs : posix.dstStart = ⟨some sd, some st⟩)
    (he : posix.dstEnd = ⟨some ed, some et⟩) (y : Int) :
    yearPair posix dstTi stdTi lastTime stdOff dstOff y =
      Ru.yearPairL sd st ed et dstTi stdTi lastTime stdOff dstOff y := by
  unfold yearPair Ru.yearPairL
  rw [hs, he]
  rfl

theorem extendLoop_trans : extendLoop_trans_statement := by
  intro posix dstTi stdTi lastTime stdOff dstOff n y0 tr sd ed st et hs he gs ge
  have h := Ru.extendLoop_trans_list dstTi stdTi lastTime stdOff dstOff hs he gs ge n
    _ _ (inv_init tr y0)
  simp only [yearPair_eq posix dstTi stdTi lastTime stdOff dstOff sd ed st et hs he]
  exact h

/-- the hypotheses of `extendLoop_trans` hold for the US rule `M3.2.0/2,M11.1.0/2`, and the year
pair of 2024 under EST/EDT is 2024-03-10 07:00:00 UTC and 2024-11-03 06:00:00 UTC -/
def usRule : Posix.TimeZone :=
  { dstStart := ⟨some ⟨.M, 3, 2, 0⟩, some 7200⟩, dstEnd := ⟨some ⟨.M, 11, 1, 0⟩, some 7200⟩ }

example : usRule.dstStart = ⟨some ⟨.M, 3, 2, 0⟩, some 7200⟩ ∧
    usRule.dstEnd = ⟨some ⟨.M, 11, 1, 0⟩, some 7200⟩ ∧
    DateInGrammar ⟨.M, 3, 2, 0⟩ ∧ DateInGrammar ⟨.M, 11, 1, 0⟩ :=
  ⟨rfl, rfl, by unfold DateInGrammar; decide, by unfold DateInGrammar; decide⟩

example : yearPair usRule 1 0 0 (-18000) (-14400) 2024 =
    [{ unixTime := 1710054000, typeIndex := 1 }, { unixTime := 1730613600, typeIndex := 0 }] := by
  decide +kernel

end Cctz.C01Rule
