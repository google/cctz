/-
  C07Class helper proofs: the whole round trip for a format of the class — `format()`'s text by
  `C08Lex.format_follows_spec`, the specifier loop by `Rtc.loop`, the rest of `parse()` by
  `Rtc.parse_tail_gen` (or the `%s` early return).  `parse_tail_gen` comes first: from ANY final
  state of the specifier loop in which every field equals what lookup() reported to the result of
  `parse`.  At the end, for C07Whole: "%Y-%m-%d%ET%H:%M:%E*S%E*z" is in the class.
-/
import Cctz.Proofs.RtClassTok
import Cctz.Proofs.RtClassFormat
import Cctz.Proofs.RtClassLoop
import Cctz.Proofs.LexLoop
import Cctz.Proofs.RtClassState
import Cctz.Proofs.WrTail
import Cctz.Proofs.BytesLemmas

namespace Cctz.Rtc
open Cctz Cctz.Bytes Cctz.Format Cctz.Parse Cctz.Spec Cctz.Tz Cctz.Tl Cctz.Pa Cctz.Wr

theorem parse_tail_gen (sp : Strptime) (fmt input : Bytes) (z : Tz.Zone) (al : Tz.AbsLookup) (t fs : Int)
    (hdata : ∃ d, (loopEnd sp fmt input).data = some d ∧ skipSpace d = [])
    (hstat : Stat fs (loopEnd sp fmt input))
    (hall : ∀ f, f ≠ Fld.unix → holdsF al t fs (loopEnd sp fmt input) f)
    (hnu : (loopEnd sp fmt input).sawPercentS = false)
    (hv : Valid al.cs)
    (hsec : secNum al.cs = t + al.offset) (ho1 : -86400 < al.offset) (ho2 : al.offset < 86400)
    (ht1 : i64min + 86400 ≤ t) (ht2 : t ≤ i64max - 86400) :
    (parse sp fmt input z).val.1 = .ok t fs := by
  -- the arithmetic first: `omega` reads the whole context, which is large once `parse` is unfolded
  have ht1' : -9223372036854775808 + 86400 ≤ t := ht1
  have ht2' : t ≤ 9223372036854775807 - 86400 := ht2
  have hin : inI64 t := ⟨show -9223372036854775808 ≤ t by omega, show t ≤ 9223372036854775807 by omega⟩
  have hb1 : -9223372036854862208 ≤ secNum al.cs := by omega
  have hb2 : secNum al.cs ≤ 9223372036854862208 := by omega
  have hmax : ¬ t = i64max := by unfold i64max; omega
  have hmin : ¬ t = i64min := by unfold i64min; omega
  unfold parse
  unfold loopEnd at hdata hstat hall hnu
  extract_lets data st0 st tmsrc tm
  change ∃ d, st.data = some d ∧ skipSpace d = [] at hdata
  change Stat fs st at hstat
  change ∀ f, f ≠ Fld.unix → holdsF al t fs st f at hall
  change st.sawPercentS = false at hnu
  obtain ⟨d, hd, hsk⟩ := hdata
  obtain ⟨hwk, htw, _⟩ := hstat
  obtain ⟨hy1, hy2⟩ : st.sawYear = true ∧ st.year = al.cs.y := hall .year (by decide)
  have hmo : st.tm.mon = al.cs.m - 1 := hall .month (by decide)
  have hda : st.tm.mday = al.cs.d := hall .day (by decide)
  have hho : st.tm.hour = al.cs.hh := hall .hour (by decide)
  have hmi : st.tm.min = al.cs.mm := hall .minute (by decide)
  have hse : st.tm.sec = al.cs.ss := hall .second (by decide)
  have hfr : st.subseconds = fs := hall .frac (by decide)
  obtain ⟨hz1, hz2⟩ : st.sawOffset = true ∧ st.offset = al.offset := hall .offset (by decide)
  have htm : tm = st.tm := by
    show (if st.twelveHour = true ∧ st.afternoon = true ∧ st.tm.hour < 12 then _ else st.tm) = st.tm
    rw [if_neg (by rw [htw]; simp)]
  clear_value tm st
  subst htm
  clear tmsrc
  obtain ⟨hm1, hm2, hd1, hd2, hh1, hh2, hmm1, hmm2, hs1, hs2⟩ := hv
  have hv : Valid al.cs := ⟨hm1, hm2, hd1, hd2, hh1, hh2, hmm1, hmm2, hs1, hs2⟩
  have h60 : (al.cs.ss == 60) = false := by
    rw [beq_eq_false_iff_ne]; omega
  simp only [hd, hsk, hnu, hy1, hy2, hmo, hda, hho, hmi, hse, hfr, hz1, hz2, hwk, Bool.false_eq_true,
    if_false, List.isEmpty_nil, Bool.not_true, if_true, ne_eq, not_true_eq_false, h60]
  rw [Ck.bindv, reset_val, Ck.bindv, Ck.pure_val]
  simp only [hse]
  rw [if_neg (by omega), Ck.bindv, Ck.pure_val]
  simp only []
  rw [Ck.bindv, Ck.pure_val]
  simp only [hmo, hda, hho, hmi, hse]
  rw [Ck.bindv, chk32_val, show al.cs.m - 1 + 1 = al.cs.m by omega, Ck.bindv, civilNew_valid al.cs hv]
  rw [if_neg (by simp), Ck.bindv, cmax_val, Ck.bindv, cmin_val, Ck.bindv,
    guard_false al.cs al.offset hv hb1 hb2 ho1 ho2]
  simp only [Bool.false_eq_true, if_false]
  obtain ⟨vs, _, us⟩ := civilSub_spec .second al.cs al.offset hv trivial
  have us' : secNum (Civil.civilSub .second al.cs al.offset).val = t := by
    have : secNum (Civil.civilSub .second al.cs al.offset).val = secNum al.cs - al.offset := us
    omega
  have hpre := (utc_pre _ vs).trans (Tc.clamp64_of_in (by rw [us']; exact hin))
  rw [us'] at hpre
  rw [Ck.bindv, Ck.bindv, hpre, if_neg hmax, if_neg hmin, Ck.pure_val]

end Cctz.Rtc

namespace Cctz.Rtc
open Cctz Cctz.Bytes Cctz.Format Cctz.Parse Cctz.Spec Cctz.Spec.Lex Cctz.Pa Cctz.Wr

theorem length_le_spellAll (l : List Item) : l.length ≤ (spellAll l).length := by
  induction l with
  | nil => simp
  | cons it l ih =>
    rw [spellAll_cons, List.length_append, List.length_cons]
    have : 1 ≤ (spell it).length := by cases it <;> simp [spell]
    omega

theorem format_items (sf : Strftime) {al : Tz.AbsLookup} {t fs : Int} (E : Env al t fs) (l : List Item)
    (hv : ∀ it ∈ l, it.valid) :
    (format sf (spellAll l) al t fs).val = renderAll al t fs l := by
  rw [Lx.format_val sf _ al t fs E.valid E.yr (by have := E.off1; omega) (by have := E.off2; omega) E.tr E.fs0 E.fs1]
  unfold Lex.formatSpec
  rw [Lx.segs_eq_specSegs al t fs _ none _ (Nat.le_succ _), render_spell sf _ al t fs l hv]

theorem loopEnd_items (sp : Strptime) {al : Tz.AbsLookup} {t fs : Int} (E : Env al t fs) (l : List Item)
    (hv : ∀ it ∈ l, it.valid) (hfol : followOk true l = true) (hcond : CondOK al l) :
    LoopEnd al t fs l { data := some (skipSpace (renderAll al t fs l)), fmt := spellAll l }
      (loopEnd sp (spellAll l) (renderAll al t fs l)) := by
  unfold loopEnd
  rw [cstr_of_noNul _ (noNul_renderAll E l hv), cstr_of_noNul _ (noNul_spellAll l hv)]
  exact loop sp E l _ _ true (by have := length_le_spellAll l; omega) hv hfol hcond
    ⟨_, rfl, Or.inr ⟨rfl, rfl⟩, Or.inl rfl⟩ ⟨rfl, rfl, Or.inl rfl⟩

theorem allFields_has (l : List Item) (h : allFields l = true) (f : Fld) (hf : f ≠ .unix) : hasFld l f = true := by
  simp only [allFields, Bool.and_eq_true] at h
  obtain ⟨⟨⟨⟨⟨⟨⟨a, b⟩, c⟩, d⟩, e⟩, g⟩, i⟩, j⟩ := h
  cases f <;> first | assumption | exact absurd rfl hf

/-- the round trip for items: with every field carried and no `%s`, the instant and the fraction;
with `%s`, the instant and a ZERO fraction -/
theorem roundtrip_items (sp : Strptime) (sf : Strftime) (z' : Tz.Zone) {al : Tz.AbsLookup} {t fs : Int}
    (E : Env al t fs) (hsec : secNum al.cs = t + al.offset) (ht1 : i64min + 86400 ≤ t) (ht2 : t ≤ i64max - 86400)
    (l : List Item) (hv : ∀ it ∈ l, it.valid) (hfol : followOk true l = true) (hcond : CondOK al l) :
    (allFields l = true → hasFld l .unix = false →
      (parse sp (spellAll l) (format sf (spellAll l) al t fs).val z').val.1 = .ok t fs) ∧
    (hasFld l .unix = true →
      (parse sp (spellAll l) (format sf (spellAll l) al t fs).val z').val.1 = .ok t 0) := by
  rw [format_items sf E l hv]
  obtain ⟨⟨d, hd, hsk⟩, hst, hkeep, hun⟩ := loopEnd_items sp E l hv hfol hcond
  constructor
  · intro hall hnu
    exact parse_tail_gen sp _ _ z' al t fs ⟨d, hd, hsk⟩ hst
      (fun f hf => hkeep f (Or.inr (allFields_has l hall f hf))) (hun hnu rfl) E.valid hsec E.off1 E.off2 ht1 ht2
  · intro hs
    obtain ⟨hu1, hu2⟩ : (loopEnd sp (spellAll l) (renderAll al t fs l)).sawPercentS = true ∧
        (loopEnd sp (spellAll l) (renderAll al t fs l)).percentS = t := hkeep .unix (Or.inr hs)
    rw [parse_percentS sp _ _ z' d hd hsk hu1, hu2]

/-! ### the classes, unfolded -/

theorem losslessX_items (f : Bytes) (h : LosslessX f) :
    ∃ l, itemsOf f = some l ∧ spellAll l = f ∧ (∀ it ∈ l, it.valid) ∧ followOk true l = true ∧
      allFields l = true ∧ hasFld l .unix = false := by
  unfold LosslessX losslessXb at h
  split at h
  · next l hl =>
    obtain ⟨a, b⟩ := itemsOf_sound f l hl
    simp only [Bool.and_eq_true, Bool.not_eq_true'] at h
    exact ⟨l, hl, a, b, h.1.1, h.1.2, h.2⟩
  · cases h

theorem losslessS_items (f : Bytes) (h : LosslessS f) :
    ∃ l, itemsOf f = some l ∧ spellAll l = f ∧ (∀ it ∈ l, it.valid) ∧ followOk true l = true ∧
      hasFld l .unix = true := by
  unfold LosslessS losslessSb at h
  split at h
  · next l hl =>
    obtain ⟨a, b⟩ := itemsOf_sound f l hl
    simp only [Bool.and_eq_true] at h
    exact ⟨l, hl, a, b, h.1, h.2⟩
  · cases h

theorem roundtrip_ext (sp : Strptime) (sf : Strftime) (z' : Tz.Zone) (al : Tz.AbsLookup) (t fs : Int) (fmt : Bytes)
    (hm : usesMinutes fmt = true → al.offset % 60 = 0)
    (hy : usesYear4 fmt = true → -999 ≤ al.cs.y ∧ al.cs.y ≤ 9999)
    (hval : Valid al.cs) (hsec : secNum al.cs = t + al.offset) (ho1 : -86400 < al.offset) (ho2 : al.offset < 86400)
    (ht1 : i64min + 86400 ≤ t) (ht2 : t ≤ i64max - 86400) (h0 : 0 ≤ fs) (h1 : fs < 1000000000000000) :
    (LosslessX fmt → (parse sp fmt (format sf fmt al t fs).val z').val.1 = .ok t fs) ∧
    (LosslessS fmt → (parse sp fmt (format sf fmt al t fs).val z').val.1 = .ok t 0) := by
  have hb1 : -9223372036854862208 ≤ secNum al.cs := by unfold i64min at ht1; omega
  have hb2 : secNum al.cs ≤ 9223372036854862208 := by unfold i64max at ht2; omega
  have hyr : inI64 al.cs.y := by
    have := year_bounds al.cs hval hb1 hb2
    unfold inI64 i64min i64max; omega
  have ht : inI64 t := by unfold inI64; unfold i64min at *; unfold i64max at *; omega
  have E : Env al t fs := ⟨hval, hyr, ho1, ho2, ht, h0, h1⟩
  have hc : ∀ l, itemsOf fmt = some l → CondOK al l := fun l hl it hit =>
    ⟨fun h => hm (by simpa [usesMinutes, hl] using ⟨it, hit, h⟩),
     fun h => hy (by simpa [usesYear4, hl] using ⟨it, hit, h⟩)⟩
  constructor
  · intro hL
    obtain ⟨l, hl, rfl, hvl, hfol, hall, hnu⟩ := losslessX_items fmt hL
    exact (roundtrip_items sp sf z' E hsec ht1 ht2 l hvl hfol (hc l hl)).1 hall hnu
  · intro hL
    obtain ⟨l, hl, rfl, hvl, hfol, hs⟩ := losslessS_items fmt hL
    exact (roundtrip_items sp sf z' E hsec ht1 ht2 l hvl hfol (hc l hl)).2 hs

end Cctz.Rtc

namespace Cctz.Wr
open Cctz Cctz.Bytes Cctz.Format Cctz.Parse Cctz.Spec

theorem full_roundtrip (al : Tz.AbsLookup) (t fs : Int) (z' : Tz.Zone) (sf : Strftime) (sp : Strptime)
    (hv : Valid al.cs) (hsec : secNum al.cs = t + al.offset) (ho1 : -86400 < al.offset)
    (ho2 : al.offset < 86400) (ht1 : i64min + 86400 ≤ t) (ht2 : t ≤ i64max - 86400)
    (h0 : 0 ≤ fs) (h1 : fs < 1000000000000000) :
    (parse sp (ofString "%Y-%m-%d%ET%H:%M:%E*S%E*z")
      (render sf (formatSegs (ofString "%Y-%m-%d%ET%H:%M:%E*S%E*z") al t fs).val.1
        (formatSegs (ofString "%Y-%m-%d%ET%H:%M:%E*S%E*z") al t fs).val.2) z').val.1 = .ok t fs := by
  have hL : Rtc.LosslessX (ofString "%Y-%m-%d%ET%H:%M:%E*S%E*z") := by rw [ofString_eq]; decide +kernel
  have hU : Rtc.usesMinutes (ofString "%Y-%m-%d%ET%H:%M:%E*S%E*z") = false ∧
      Rtc.usesYear4 (ofString "%Y-%m-%d%ET%H:%M:%E*S%E*z") = false := by rw [ofString_eq]; decide +kernel
  have h := (Rtc.roundtrip_ext sp sf z' al t fs _ (fun h => by rw [hU.1] at h; cases h)
    (fun h => by rw [hU.2] at h; cases h) hv hsec ho1 ho2 ht1 ht2 h0 h1).1 hL
  rwa [format, Ck.map_val] at h

end Cctz.Wr
