/-
  Soundness and completeness of the executable `Tame'` checker of Cctz/Model/TameCheck.lean.
-/
import Cctz.Model.TameCheck
import Cctz.Proofs.LtCheck
import Cctz.Proofs.QoTame

namespace Cctz.TameCheck
open Cctz Cctz.Tz Cctz.Spec Cctz.TableCheck Cctz.TameCheck

/-! ### the arithmetic clauses -/

theorem allIdx_iff {n : Nat} {p : Nat → Bool} : allIdx n p = true ↔ ∀ i, i < n → p i = true :=
  ⟨Lt.allIdx_sound, Lt.allIdx_complete⟩

theorem offsb_iff (z : Zone) : offsb z = true ↔
    ∀ k, k < z.types.size → -90000 < (typ z k).utcOffset ∧ (typ z k).utcOffset < 90000 := by
  simp only [offsb, allIdx_iff, Bool.and_eq_true, decide_eq_true_eq]

theorem timesb_iff (z : Zone) : timesb z = true ↔ ∀ i, i < z.transitions.size →
    -1152921504606846976 ≤ timeOf z i ∧ timeOf z i ≤ 1152921504606846976 := by
  simp only [timesb, allIdx_iff, Bool.and_eq_true, decide_eq_true_eq]

theorem halvesb_iff (z : Zone) :
    halvesb z = true ↔ timeOf z 0 < 0 ∧ 0 ≤ timeOf z (z.transitions.size - 1) := by
  simp only [halvesb, Bool.and_eq_true, decide_eq_true_eq]

theorem extb_sound (z : Zone) (h : extb z = true) (hext : z.extended = true) :
    ∃ ly, z.lastYear = some ly ∧ 7161147008 ≤ timeOf z (z.transitions.size - 1) ∧
      -40000000000 ≤ ly ∧ ly ≤ 40000000000 ∧ (trn z (z.transitions.size - 1)).civilSec.y ≤ ly + 1 := by
  unfold extb at h
  rw [hext] at h
  cases hl : z.lastYear with
  | none => rw [hl] at h; simp at h
  | some ly =>
    rw [hl] at h
    simp only [Bool.not_true, Bool.false_or, Bool.and_eq_true, decide_eq_true_eq] at h
    exact ⟨ly, rfl, h.1.1.1, h.1.1.2, h.1.2, h.2⟩

theorem tameFullb_sound (z : Zone) (h : tameFullb z = true) : Qo.Tame' z := by
  unfold tameFullb at h
  simp only [Bool.and_eq_true] at h
  obtain ⟨⟨⟨⟨⟨⟨hwf, hcols⟩, hsorted⟩, hoffs⟩, htimes⟩, hhalves⟩, hextb⟩ := h
  refine ⟨⟨Lt.tableWFb_sound z hwf, Lt.civilColsb_sound z hcols, Lt.civilSortedb_sound z hsorted,
    (offsb_iff z).1 hoffs, (timesb_iff z).1 htimes, (halvesb_iff z).1 hhalves, ?_⟩, ?_⟩
  · intro hext
    obtain ⟨ly, h1, h2, h3, h4, h5⟩ := extb_sound z hextb hext
    exact ⟨ly, h1, by omega, h3, h4, h5⟩
  · intro hext
    obtain ⟨_, _, h2, _⟩ := extb_sound z hextb hext
    exact h2

/-! ### completeness -/

theorem tableWFb_complete (z : Zone) (h : TableWF z) : tableWFb z = true := by
  unfold tableWFb
  simp only [Bool.and_eq_true, decide_eq_true_eq]
  refine ⟨⟨⟨h.nonempty, ?_⟩, ?_⟩, h.defaultIdx⟩
  · apply Lt.allIdx_complete
    intro i hi
    simp only [decide_eq_true_eq]
    exact h.timeSorted i (i + 1) (by omega) (by omega)
  · apply Lt.allIdx_complete
    intro i hi
    simp only [decide_eq_true_eq]
    exact h.typeIdx i hi

theorem civilSortedb_complete (z : Zone) (h : CivilSorted z) : civilSortedb z = true := by
  unfold civilSortedb
  apply Lt.allIdx_complete
  intro i hi
  exact h i (i + 1) (by omega) (by omega)

theorem civilColsb_complete (z : Zone) (h : CivilCols z) : civilColsb z = true := by
  unfold civilColsb
  rw [Bool.and_eq_true]
  constructor
  · apply Lt.allIdx_complete
    intro i hi
    simp only [Bool.and_eq_true, decide_eq_true_eq]
    exact ⟨⟨⟨(h.civ i hi).1, (h.civ i hi).2⟩, (h.prev i hi).1⟩, (h.prev i hi).2⟩
  · apply Lt.allIdx_complete
    intro k hk
    simp only [Bool.and_eq_true, decide_eq_true_eq]
    exact ⟨⟨⟨(h.tmax k hk).1, (h.tmax k hk).2⟩, (h.tmin k hk).1⟩, (h.tmin k hk).2⟩

theorem extb_complete (z : Zone) (h : Qo.Tame' z) : extb z = true := by
  unfold extb
  cases hext : z.extended with
  | false => rfl
  | true =>
    obtain ⟨ly, hl, _, h3, h4, h5⟩ := h.ext hext
    have h2 := h.extStrict hext
    rw [hl]
    simp only [Bool.not_true, Bool.false_or, Bool.and_eq_true, decide_eq_true_eq]
    exact ⟨⟨⟨h2, h3⟩, h4⟩, h5⟩

theorem tameFullb_complete (z : Zone) (h : Qo.Tame' z) : tameFullb z = true := by
  unfold tameFullb
  simp only [Bool.and_eq_true]
  exact ⟨⟨⟨⟨⟨⟨tableWFb_complete z h.wf, civilColsb_complete z h.cols⟩,
    civilSortedb_complete z h.sorted⟩, (offsb_iff z).2 h.offs⟩, (timesb_iff z).2 h.times⟩,
    (halvesb_iff z).2 h.halves⟩, extb_complete z h⟩

theorem tameFullb_iff (z : Zone) : tameFullb z = true ↔ Qo.Tame' z :=
  ⟨tameFullb_sound z, tameFullb_complete z⟩

end Cctz.TameCheck
