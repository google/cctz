/-
  C10 (continued) — conversions are total without undefined behaviour on tame tables: no flag at
  all (in particular no signed overflow) for every int64 instant and every civil second with an
  int64 year.  `Tame` is defined in Cctz/Spec/TableTame.lean; the excluded (untame) tables are
  exactly the known findings F4 / F9 / F13 of DESIGN.md.
-/
import Cctz.Model.Tz
import Cctz.Spec.TableSem
import Cctz.Spec.TableTame
import Cctz.Proofs.QueryOk

namespace Cctz.C10Safe
open Cctz Cctz.Tz Cctz.Spec

def breakTime_ok_statement : Prop :=
  ∀ (z : Zone) (h : Nat) (t : Int), Tame z → inI64 t → (breakTime z h t).ok

def makeTime_ok_statement : Prop :=
  ∀ (z : Zone) (h : Nat) (cs : Fields), Tame z → Valid cs → inI64 cs.y → (makeTime z h cs).ok

def convert_ok_statement : Prop :=
  ∀ (z : Zone) (h : Nat) (cs : Fields), Tame z → Valid cs → inI64 cs.y → (convert z h cs).ok

def transitions_ok_statement : Prop :=
  ∀ (z : Zone) (t : Int), Tame z → inI64 t → (nextTransition z t).ok ∧ (prevTransition z t).ok

/-- the results are time_point values: inside int64 -/
def results_in_range_statement : Prop :=
  ∀ (z : Zone) (h : Nat) (cs : Fields), Tame z → Valid cs → inI64 cs.y →
    inI64 (makeTime z h cs).val.1.pre ∧ inI64 (makeTime z h cs).val.1.trans ∧ inI64 (makeTime z h cs).val.1.post


/-! ## proofs

`Tame` is exactly one second too weak for `breakTime_ok_statement`: `Tame.ext` allows the last entry of
a rule-extended table to be *equal* to `INT64_MAX mod kSecsPer400Years = 7161147007`
(2196-12-04 15:30:07 UTC), and then `BreakTime(max())` computes `shift = 730692562` and
`shift * kSecsPer400Years` overflows.  `breakTime_ok_counterexample` exhibits such a tame table;
`breakTime_ok_partial` proves the statement for `Qo.Tame'` (strict inequality), and
`breakTime_ok_below_max` / `breakTime_ok_nonextended` show that on `Tame` tables `max()` on an extended
table is the only failing input.  The other four statements hold for `Tame` as stated. -/

/-- the tame table `Qo.zBoundary` (UTC, sentinel entry, last entry 7161147007, extended up to 2196)
raises `ovf` in `BreakTime(max())` -/
theorem breakTime_ok_counterexample : ¬ breakTime_ok_statement := fun h =>
  Qo.zBoundary_ovf 0 ((Qo.ok_iff _).1 (h Qo.zBoundary 0 i64max Qo.zBoundary_tame (by decide))).2

def breakTime_ok_partial_statement : Prop :=
  ∀ (z : Zone) (h : Nat) (t : Int), Qo.Tame' z → inI64 t → (breakTime z h t).ok

theorem breakTime_ok_partial : breakTime_ok_partial_statement := fun _ h t tm ht =>
  Qo.breakTime_ok_of tm.toTame tm.extStrict h t ht

example : Qo.Tame' Qo.zBeyond ∧ inI64 i64max := ⟨Qo.zBeyond_tame', by decide⟩

/-- with `Tame` as given: every instant except `max()` -/
def breakTime_ok_below_max_statement : Prop :=
  ∀ (z : Zone) (h : Nat) (t : Int), Tame z → inI64 t → t < i64max → (breakTime z h t).ok

theorem breakTime_ok_below_max : breakTime_ok_below_max_statement := fun _ h t tm ht hlt =>
  (Qo.ok_iff _).2 ⟨Ld.breakTime_safe _ (Qo.tame_idx tm) h t, Qo.breakTime_novf tm h t ht fun he => by
    obtain ⟨ly, _, hL, _⟩ := tm.ext he
    simp only [i64max] at hlt
    omega⟩

example : Tame Qo.zBoundary ∧ inI64 (i64max - 1) ∧ i64max - 1 < i64max :=
  ⟨Qo.zBoundary_tame, by decide, by decide⟩

/-- with `Tame` as given: every instant on tables that are not rule-extended -/
def breakTime_ok_nonextended_statement : Prop :=
  ∀ (z : Zone) (h : Nat) (t : Int), Tame z → z.extended = false → inI64 t → (breakTime z h t).ok

theorem breakTime_ok_nonextended : breakTime_ok_nonextended_statement := fun _ h t tm hne ht =>
  Qo.breakTime_ok_of tm (fun he => by rw [hne] at he; cases he) h t ht

theorem makeTime_ok : makeTime_ok_statement := fun _ h cs tm vcs hy =>
  Qo.makeTime_ok_of tm h cs vcs hy

example : Tame Qo.zBoundary ∧ Valid ⟨i64max, 12, 31, 23, 59, 59⟩ ∧
    inI64 (⟨i64max, 12, 31, 23, 59, 59⟩ : Fields).y := ⟨Qo.zBoundary_tame, by decide, by decide⟩

theorem convert_ok : convert_ok_statement := fun _ h cs tm vcs hy =>
  (Qo.ok_iff _).2 ⟨Ld.convert_safe _ (Qo.tame_idx tm) h cs vcs, Qo.convert_novf tm h cs vcs hy⟩

theorem transitions_ok : transitions_ok_statement := fun _ t tm _ =>
  ⟨(Qo.ok_iff _).2 ⟨Ld.nextTransition_safe _ (Qo.tame_idx tm) t, Qo.nextTransition_novf tm t⟩,
   (Qo.ok_iff _).2 ⟨Ld.prevTransition_safe _ (Qo.tame_idx tm) t, Qo.prevTransition_novf tm t⟩⟩

theorem results_in_range : results_in_range_statement := fun _ h cs tm vcs hy =>
  (Qo.makeTime_nh tm h cs vcs hy).2

end Cctz.C10Safe
