/-
  C01 gluing, the table side: `TableWF` as `List.Pairwise`, `typeAt` as "the type of the latest
  entry at or before t", membership in a year pair.
-/
import Cctz.Model.Tz
import Cctz.Spec.PosixRule
import Cctz.Spec.TableSem
import Cctz.Proofs.TableLookup
import Cctz.Proofs.RuleExtend
import Cctz.Proofs.RgOrder

namespace Cctz.Rg
open Cctz Cctz.Tz Cctz.Spec

theorem offAt_typeAt (z : Zone) (t : Int) : offAt z t = (typ z (typeAt z t)).utcOffset := rfl

/-! ### the table as a list -/

theorem trn_eq_getElem (z : Zone) (i : Nat) (hi : i < z.transitions.toList.length) :
    trn z i = z.transitions.toList[i] := by
  unfold trn
  have hi' : i < z.transitions.size := by simpa using hi
  rw [Array.getD_eq_getD_getElem?, Array.getElem?_eq_getElem hi']
  simp

theorem trn_mem (z : Zone) (i : Nat) (hi : i < z.transitions.size) : trn z i ∈ z.transitions.toList := by
  have hi' : i < z.transitions.toList.length := by simpa using hi
  rw [trn_eq_getElem z i hi']
  exact List.getElem_mem hi'

theorem mem_trn (z : Zone) (x : Transition) (hx : x ∈ z.transitions.toList) :
    ∃ i, i < z.transitions.size ∧ trn z i = x := by
  obtain ⟨i, hi, e⟩ := List.mem_iff_getElem.1 hx
  exact ⟨i, by simpa using hi, by rw [trn_eq_getElem z i hi, e]⟩

/-- the time column is strictly increasing along the list -/
theorem pairwise_of_wf (z : Zone) (wf : TableWF z) :
    z.transitions.toList.Pairwise (fun a b => a.unixTime < b.unixTime) := by
  rw [List.pairwise_iff_getElem]
  intro i j hi hj hij
  rw [← trn_eq_getElem z i hi, ← trn_eq_getElem z j hj]
  exact wf.timeSorted i j hij (by simpa using hj)

/-- so each part of a table split in two is sorted, and the first lies before the second -/
theorem pairwise_split (z : Zone) (wf : TableWF z) {rec gen : List Transition}
    (hl : z.transitions.toList = rec ++ gen) :
    rec.Pairwise (fun a b => a.unixTime < b.unixTime) ∧
      gen.Pairwise (fun a b => a.unixTime < b.unixTime) ∧
      ∀ a ∈ rec, ∀ b ∈ gen, a.unixTime < b.unixTime := by
  have pw := pairwise_of_wf z wf
  rwa [hl, List.pairwise_append] at pw

/-- `typeAt` is the type of the latest entry at or before `t` -/
theorem typeAt_of_max (z : Zone) (wf : TableWF z) (t : Int) (x : Transition)
    (hx : x ∈ z.transitions.toList) (hle : x.unixTime ≤ t)
    (hmax : ∀ x' ∈ z.transitions.toList, x'.unixTime ≤ t → x'.unixTime ≤ x.unixTime) :
    typeAt z t = x.typeIndex := by
  obtain ⟨i, hi, e⟩ := mem_trn z x hx
  have hs : segIndex z t = i + 1 := by
    refine Tc.segIndex_of_inSeg wf ⟨by omega, fun _ => ?_, fun hj => ?_⟩
    · unfold timeOf; rw [Nat.add_sub_cancel, e]; exact hle
    · have h1 := wf.timeSorted i (i + 1) (by omega) hj
      have := hmax _ (trn_mem z (i + 1) hj)
      unfold timeOf; rw [e] at h1; omega
  unfold typeAt
  rw [hs, if_neg (by omega), show i + 1 - 1 = i by omega, e]

/-- the time of the last entry is the largest time in the table -/
theorem last_of_max (z : Zone) (wf : TableWF z) (x : Transition) (hx : x ∈ z.transitions.toList)
    (hmax : ∀ x' ∈ z.transitions.toList, x'.unixTime ≤ x.unixTime) :
    timeOf z (z.transitions.size - 1) = x.unixTime := by
  obtain ⟨i, hi, e⟩ := mem_trn z x hx
  have h1 := hmax _ (trn_mem z (z.transitions.size - 1) (by have := wf.nonempty; omega))
  by_cases hil : i = z.transitions.size - 1
  · subst hil; unfold timeOf; rw [e]
  · have := wf.timeSorted i (z.transitions.size - 1) (by omega) (by omega)
    rw [e] at this
    unfold timeOf; omega

/-- among the elements with key at most `t` (if any) there is one of largest key -/
theorem exists_max_le {α : Type} (f : α → Int) (t : Int) : ∀ l : List α,
    (∃ x ∈ l, f x ≤ t) → ∃ x ∈ l, f x ≤ t ∧ ∀ x' ∈ l, f x' ≤ t → f x' ≤ f x
  | [], h => by simp at h
  | a :: r, h => by
    by_cases hr : ∃ x ∈ r, f x ≤ t
    · obtain ⟨x, hx, hxt, hm⟩ := exists_max_le f t r hr
      by_cases ha : f a ≤ t ∧ f x ≤ f a
      · refine ⟨a, List.mem_cons_self, ha.1, fun x' hx' hx't => ?_⟩
        rcases List.mem_cons.1 hx' with e | e
        · rw [e]; omega
        · have := hm x' e hx't; omega
      · refine ⟨x, List.mem_cons_of_mem _ hx, hxt, fun x' hx' hx't => ?_⟩
        rcases List.mem_cons.1 hx' with e | e
        · rw [e]; rw [e] at hx't; omega
        · exact hm x' e hx't
    · obtain ⟨x, hx, hxt⟩ := h
      rcases List.mem_cons.1 hx with e | e
      · refine ⟨a, List.mem_cons_self, e ▸ hxt, fun x' hx' hx't => ?_⟩
        rcases List.mem_cons.1 hx' with e' | e'
        · rw [e']; omega
        · exact absurd ⟨x', e', hx't⟩ hr
      · exact absurd ⟨x, e, hxt⟩ hr

/-! ### a table made of a recorded part followed by a generated part -/

/-- time of the last recorded entry, as `ExtendedBy` writes it -/
def lastTime (rec : List Transition) : Int := (rec.getLast?.map (·.unixTime)).getD 0
/-- type of the last recorded entry -/
def lastType (rec : List Transition) : Nat := (rec.getLast?.map (·.typeIndex)).getD 0

theorem lastTime_eq (rec : List Transition) (h : rec ≠ []) : lastTime rec = (rec.getLast h).unixTime := by
  unfold lastTime; rw [List.getLast?_eq_some_getLast h]; rfl

/-- in a time-sorted list every element is at or before the last one -/
theorem le_getLast (l : List Transition) (h : l ≠ [])
    (pw : l.Pairwise (fun a b => a.unixTime < b.unixTime)) (x : Transition) (hx : x ∈ l) :
    x.unixTime ≤ (l.getLast h).unixTime := by
  obtain ⟨i, hi, e⟩ := List.mem_iff_getElem.1 hx
  rw [List.getLast_eq_getElem]
  by_cases hil : i = l.length - 1
  · subst hil; rw [← e]; omega
  · have := (List.pairwise_iff_getElem.1 pw) i (l.length - 1) hi (by omega) (by omega)
    rw [e] at this; omega

/-- lookup in `rec ++ gen` at an instant at or after the last recorded entry: either no generated
entry is at or before `t` and the last recorded type is in force, or the type of the latest
generated entry at or before `t` is -/
theorem typeAt_split (z : Zone) (wf : TableWF z) (rec gen : List Transition) (hrec : rec ≠ [])
    (hl : z.transitions.toList = rec ++ gen) (t : Int) (ht : lastTime rec ≤ t) :
    ((¬ ∃ x ∈ gen, x.unixTime ≤ t) ∧ typeAt z t = lastType rec) ∨
    (∃ x ∈ gen, x.unixTime ≤ t ∧ (∀ x' ∈ gen, x'.unixTime ≤ t → x'.unixTime ≤ x.unixTime) ∧
      typeAt z t = x.typeIndex) := by
  obtain ⟨pr, _, prg⟩ := pairwise_split z wf hl
  rw [lastTime_eq rec hrec] at ht
  have hlastmem : rec.getLast hrec ∈ rec := List.getLast_mem hrec
  by_cases hg : ∃ x ∈ gen, x.unixTime ≤ t
  · right
    obtain ⟨x, hx, hxt, hm⟩ := exists_max_le (fun x : Transition => x.unixTime) t gen hg
    refine ⟨x, hx, hxt, hm, ?_⟩
    apply typeAt_of_max z wf t x (by rw [hl]; exact List.mem_append_right _ hx) hxt
    intro x' hx' hx't
    rw [hl] at hx'
    rcases List.mem_append.1 hx' with h | h
    · have := prg x' h x hx; omega
    · exact hm x' h hx't
  · left
    refine ⟨hg, ?_⟩
    unfold lastType
    rw [List.getLast?_eq_some_getLast hrec]
    apply typeAt_of_max z wf t _ (by rw [hl]; exact List.mem_append_left _ hlastmem) ht
    intro x' hx' hx't
    rw [hl] at hx'
    rcases List.mem_append.1 hx' with h | h
    · exact le_getLast rec hrec pr x' h
    · exact absurd ⟨x', h, hx't⟩ hg

/-! ### year pairs -/

/-- who is in a year pair -/
theorem mem_pairList (dstTi stdTi : Nat) (L a b : Int) (x : Transition) :
    x ∈ Ru.pairList dstTi stdTi L a b ↔
      (x = { unixTime := a, typeIndex := dstTi } ∧ L < a) ∨
      (x = { unixTime := b, typeIndex := stdTi } ∧ L < b) := by
  unfold Ru.pairList
  by_cases hab : a < b
  · simp only [hab, if_true]
    by_cases h2 : L < b
    · by_cases h1 : L < a
      · simp [h1, h2]
      · simp [h1, h2]
    · have h1 : ¬ L < a := by omega
      simp [h1, h2]
  · simp only [hab, if_false]
    by_cases h1 : L < a
    · by_cases h2 : L < b
      · simp [h1, h2]; exact Or.comm
      · simp [h1, h2]
    · have h2 : ¬ L < b := by omega
      simp [h1, h2]

theorem inst_of_mem_pairList {s e : Int → Int} {dstTi stdTi : Nat} {L y : Int} {x : Transition}
    (hx : x ∈ Ru.pairList dstTi stdTi L (s y) (e y)) : Inst s e y x.unixTime := by
  rcases (mem_pairList _ _ _ _ _ _).1 hx with h | h
  · left; rw [h.1]
  · right; rw [h.1]

theorem inst_mem_pairList {s e : Int → Int} (dstTi stdTi : Nat) {L y a : Int} (ha : Inst s e y a)
    (haL : L < a) :
    ∃ ti, ({ unixTime := a, typeIndex := ti } : Transition) ∈ Ru.pairList dstTi stdTi L (s y) (e y) := by
  rcases ha with h | h
  · exact ⟨dstTi, (mem_pairList _ _ _ _ _ _).2 (Or.inl ⟨by rw [h], by omega⟩)⟩
  · exact ⟨stdTi, (mem_pairList _ _ _ _ _ _).2 (Or.inr ⟨by rw [h], by omega⟩)⟩

theorem pairList_eq_nil {dstTi stdTi : Nat} {L a b : Int} (ha : a ≤ L) (hb : b ≤ L) :
    Ru.pairList dstTi stdTi L a b = [] := by
  rw [List.eq_nil_iff_forall_not_mem]
  intro x hx
  rw [mem_pairList] at hx
  omega

/-- a time-sorted year pair with both instants kept has two different instants -/
theorem pairList_ne (dstTi stdTi : Nat) (L a b : Int)
    (pw : (Ru.pairList dstTi stdTi L a b).Pairwise (fun x y => x.unixTime < y.unixTime))
    (h1 : L < a) (h2 : L < b) : a ≠ b := by
  intro e
  subst e
  unfold Ru.pairList at pw
  simp [h1] at pw

/-! ### agreement in the time and type columns -/

/-- the two columns `ExtendTransitions` writes (the civil columns are filled in afterwards) -/
def key (x : Transition) : Int × Nat := (x.unixTime, x.typeIndex)

theorem mem_of_keys {l l' : List Transition} (h : l'.map key = l.map key) {x : Transition}
    (hx : x ∈ l') : ∃ x0 ∈ l, x0.unixTime = x.unixTime ∧ x0.typeIndex = x.typeIndex := by
  have : key x ∈ l.map key := by rw [← h]; exact List.mem_map_of_mem hx
  obtain ⟨x0, hx0, e⟩ := List.mem_map.1 this
  unfold key at e
  injection e with e1 e2
  exact ⟨x0, hx0, e1, e2⟩

theorem pairwise_of_keys {l l' : List Transition} (h : l'.map key = l.map key)
    (pw : l'.Pairwise (fun a b => a.unixTime < b.unixTime)) :
    l.Pairwise (fun a b => a.unixTime < b.unixTime) := by
  have h1 : (l'.map key).Pairwise (fun a b => a.1 < b.1) :=
    (List.pairwise_map (f := key) (R := fun a b => a.1 < b.1)).2 pw
  rw [h] at h1
  exact (List.pairwise_map (f := key) (R := fun a b => a.1 < b.1)).1 h1

/-! ### the generated part: the year pairs of 402 years -/

/-- the generated part of an extended table, over total instant functions -/
def genList (s e : Int → Int) (dstTi stdTi : Nat) (L y0 : Int) : List Transition :=
  (List.range 402).flatMap fun (k : Nat) =>
    Ru.pairList dstTi stdTi L (s (y0 + (k : Int))) (e (y0 + (k : Int)))

/-- every instant later than `L` of the 402 years is in the generated part, with the type of its
kind, and nothing else is -/
theorem mem_genList (s e : Int → Int) (dstTi stdTi : Nat) (L y0 : Int) (x : Transition) :
    x ∈ genList s e dstTi stdTi L y0 ↔ ∃ y, y0 ≤ y ∧ y ≤ y0 + 401 ∧
      ((x = { unixTime := s y, typeIndex := dstTi } ∧ L < s y) ∨
       (x = { unixTime := e y, typeIndex := stdTi } ∧ L < e y)) := by
  unfold genList
  rw [List.mem_flatMap]
  constructor
  · rintro ⟨k, hk, hx⟩
    rw [List.mem_range] at hk
    exact ⟨y0 + (k : Int), by omega, by omega, (mem_pairList _ _ _ _ _ _).1 hx⟩
  · rintro ⟨y, h1, h2, hx⟩
    refine ⟨(y - y0).toNat, by rw [List.mem_range]; omega, ?_⟩
    rw [show y0 + (((y - y0).toNat : Nat) : Int) = y by omega]
    exact (mem_pairList _ _ _ _ _ _).2 hx

/-- strict time order of the generated part, read on the instants -/
theorem sorted_of_genList (s e : Int → Int) (dstTi stdTi : Nat) (L y0 : Int)
    (pw : (genList s e dstTi stdTi L y0).Pairwise (fun a b => a.unixTime < b.unixTime)) :
    Sorted s e y0 L := by
  unfold genList at pw
  rw [List.pairwise_flatMap] at pw
  obtain ⟨p1, p2⟩ := pw
  refine ⟨?_, ?_⟩
  · intro y h1 h2 hs he
    have := p1 (y - y0).toNat (by rw [List.mem_range]; omega)
    rw [show y0 + (((y - y0).toNat : Nat) : Int) = y by omega] at this
    exact pairList_ne _ _ _ _ _ this hs he
  · intro y y' a b h1 h2 h3 ha hb haL hbL
    have hr := (List.pairwise_iff_getElem.1 p2) (y - y0).toNat (y' - y0).toNat
      (by rw [List.length_range]; omega) (by rw [List.length_range]; omega) (by omega)
    rw [List.getElem_range, List.getElem_range] at hr
    rw [show y0 + (((y - y0).toNat : Nat) : Int) = y by omega,
      show y0 + (((y' - y0).toNat : Nat) : Int) = y' by omega] at hr
    obtain ⟨_, ma⟩ := inst_mem_pairList dstTi stdTi ha haL
    obtain ⟨_, mb⟩ := inst_mem_pairList dstTi stdTi hb hbL
    exact hr _ ma _ mb

/-- a year pair of two different instants is time-sorted -/
theorem pairList_pairwise (dstTi stdTi : Nat) (L a b : Int) (hab : a ≠ b) :
    (Ru.pairList dstTi stdTi L a b).Pairwise (fun x y => x.unixTime < y.unixTime) := by
  unfold Ru.pairList
  by_cases h : a < b
  · simp only [h, if_true]
    split <;> (try split) <;> simp [h]
  · simp only [h, if_false]
    split <;> (try split) <;> simp <;> omega

/-- the generated part of a chain is time-sorted -/
theorem genList_pairwise {s e : Int → Int} (c : Chain s e) (dstTi stdTi : Nat) (L y0 : Int) :
    (genList s e dstTi stdTi L y0).Pairwise (fun a b => a.unixTime < b.unixTime) := by
  unfold genList
  rw [List.pairwise_flatMap]
  refine ⟨fun k _ => pairList_pairwise _ _ _ _ _ (c.ne _), ?_⟩
  refine List.Pairwise.imp ?_ List.pairwise_lt_range
  intro k1 k2 hk x hx y hy
  exact c.lt (by omega) (inst_of_mem_pairList hx) (inst_of_mem_pairList hy)

/-! ### entries of the generated part as instants with a kind -/

/-- `a` is the start (`kind = true`) or the end (`kind = false`) instant of year `y` -/
def IsK (s e : Int → Int) (y a : Int) (kind : Bool) : Prop :=
  (kind = true ∧ a = s y) ∨ (kind = false ∧ a = e y)

theorem IsK.inst {s e : Int → Int} {y a : Int} {kind : Bool} (h : IsK s e y a kind) : Inst s e y a := by
  rcases h with h | h
  · exact Or.inl h.2
  · exact Or.inr h.2

theorem gen_kind {s e : Int → Int} {dstTi stdTi : Nat} {L y0 : Int} {gen : List Transition}
    (hkeys : gen.map key = (genList s e dstTi stdTi L y0).map key) {x : Transition} (hx : x ∈ gen) :
    ∃ y kind, y0 ≤ y ∧ y ≤ y0 + 401 ∧ IsK s e y x.unixTime kind ∧ L < x.unixTime ∧
      x.typeIndex = (if kind then dstTi else stdTi) := by
  obtain ⟨x0, hx0, e1, e2⟩ := mem_of_keys hkeys hx
  rw [← e1, ← e2]
  obtain ⟨y, h1, h2, h | h⟩ := (mem_genList _ _ _ _ _ _ _).1 hx0
  · exact ⟨y, true, h1, h2, Or.inl ⟨rfl, by rw [h.1]⟩, by rw [h.1]; exact h.2, by rw [h.1]; rfl⟩
  · exact ⟨y, false, h1, h2, Or.inr ⟨rfl, by rw [h.1]⟩, by rw [h.1]; exact h.2, by rw [h.1]; rfl⟩

theorem gen_of_inst {s e : Int → Int} {dstTi stdTi : Nat} {L y0 y a : Int} {gen : List Transition}
    (hkeys : gen.map key = (genList s e dstTi stdTi L y0).map key)
    (h1 : y0 ≤ y) (h2 : y ≤ y0 + 401) (ha : Inst s e y a) (haL : L < a) :
    ∃ x ∈ gen, x.unixTime = a := by
  have hx0 : ∃ x0 ∈ genList s e dstTi stdTi L y0, x0.unixTime = a := by
    rcases ha with h | h
    · exact ⟨_, (mem_genList _ _ _ _ _ _ _).2 ⟨y, h1, h2, Or.inl ⟨rfl, by omega⟩⟩, h.symm⟩
    · exact ⟨_, (mem_genList _ _ _ _ _ _ _).2 ⟨y, h1, h2, Or.inr ⟨rfl, by omega⟩⟩, h.symm⟩
  obtain ⟨x0, hx0, e0⟩ := hx0
  obtain ⟨x, hx, e1, _⟩ := mem_of_keys hkeys.symm hx0
  exact ⟨x, hx, by omega⟩

end Cctz.Rg
