/-
  C12 helper proofs: the zone queries (`BreakTime`, `MakeTime`, `convert`,
  `NextTransition`, `PrevTransition`) on a table with in-range indices.
-/
import Cctz.Proofs.LdLoad
import Cctz.Proofs.CivilNorm
import Cctz.Proofs.TbSearch
import Cctz.Proofs.TcMake

namespace Cctz.Ld
open Cctz Cctz.Wd Cctz.Tz

/-! ### the bisections stay inside `[lo, hi]` -/

theorem bisect_bounds (p : Nat → Bool) (fuel : Nat) : ∀ lo hi, lo ≤ hi →
    lo ≤ Tb.bisect p lo hi fuel ∧ Tb.bisect p lo hi fuel ≤ hi := by
  induction fuel with
  | zero => intro lo hi h; unfold Tb.bisect; exact ⟨Nat.le_refl _, h⟩
  | succ n ih =>
    intro lo hi h
    unfold Tb.bisect
    dsimp only
    split
    · split
      · have := ih lo (lo + (hi - lo) / 2) (by omega); omega
      · have := ih (lo + (hi - lo) / 2 + 1) hi (by omega); omega
    · omega

theorem upperBoundTime_le (a : Array Transition) (t : Int) : upperBoundTime a t ≤ a.size := by
  unfold upperBoundTime
  rw [Tb.upperBoundTime_go_eq]
  exact (bisect_bounds _ _ 0 a.size (Nat.zero_le _)).2

theorem upperBoundCivil_le (a : Array Transition) (cs : Fields) : upperBoundCivil a cs ≤ a.size := by
  unfold upperBoundCivil
  rw [Tb.upperBoundCivil_go_eq]
  exact (bisect_bounds _ _ 0 a.size (Nat.zero_le _)).2

theorem upperBoundTimeFrom_bounds (a : Array Transition) (f : Nat) (t : Int) (h : f ≤ a.size) :
    f ≤ upperBoundTimeFrom a f t ∧ upperBoundTimeFrom a f t ≤ a.size := by
  unfold upperBoundTimeFrom
  rw [Tb.upperBoundTimeFrom_go_eq]
  exact bisect_bounds _ _ f a.size h

theorem lowerBoundTimeFrom_bounds (a : Array Transition) (f : Nat) (t : Int) (h : f ≤ a.size) :
    f ≤ lowerBoundTimeFrom a f t ∧ lowerBoundTimeFrom a f t ≤ a.size := by
  unfold lowerBoundTimeFrom
  rw [Tb.lowerBoundTimeFrom_go_eq]
  exact bisect_bounds _ _ f a.size h

/-! ### `*--tr` in `BreakTime` never steps before the table

The model writes `i - 1` in `Nat`, so an `upper_bound` result of `0` would silently read entry 0.
It cannot be `0`: the guard `unix_time >= transitions_[0].unix_time` is checked before the search,
and a bisection that ends at `0` has seen `t < a[0]` at its last probe.  No sortedness is used. -/

theorem bisect_pos (p : Nat → Bool) (h0 : p 0 = false) (fuel : Nat) : ∀ lo hi, lo ≤ hi → 0 < hi →
    hi - lo < fuel → 0 < Tb.bisect p lo hi fuel := by
  induction fuel with
  | zero => intro lo hi _ _ hf; omega
  | succ n ih =>
    intro lo hi hle hhi hf
    unfold Tb.bisect
    dsimp only
    split
    · split
      · rename_i hp
        by_cases hmid : lo + (hi - lo) / 2 = 0
        · rw [hmid, h0] at hp; cases hp
        · exact ih lo _ (by omega) (by omega) (by omega)
      · have := (bisect_bounds p n (lo + (hi - lo) / 2 + 1) hi (by omega)).1
        omega
    · omega

theorem upperBoundTime_pos (a : Array Transition) (t : Int) (hne : 0 < a.size)
    (h0 : ¬ t < (a[0]?.map (·.unixTime)).getD 0) : 0 < upperBoundTime a t := by
  unfold upperBoundTime
  rw [Tb.upperBoundTime_go_eq]
  exact bisect_pos _ (decide_eq_false h0) _ 0 a.size (Nat.zero_le _) hne (by omega)

/-- in `breakTimeCore`, past the guard `t < first.unixTime`, the index `i - 1` read after the
bisection is a genuine predecessor (`i ≥ 1`) -/
theorem breakTime_index_pos (z : Zone) (hne : 0 < z.transitions.size) (t : Int)
    (h : ¬ t < (getTrans z 0).val.unixTime) : 0 < upperBoundTime z.transitions t := by
  refine upperBoundTime_pos _ _ hne ?_
  rw [Tb.readTime_eq, ← Tl.getTrans_val]
  exact h

theorem getTrans_holds (z : Zone) (hz : Spec.TableIdx z) (i : Nat) (hi : i < z.transitions.size) :
    Holds (getTrans z i) (fun tr => tr.typeIndex < z.types.size) :=
  ⟨getTrans_safe z i hi, allIdx_of_tableIdx z hz _ (getTrans_val_mem z i hi)⟩

theorem makeSkipped_safe (tr : Transition) (cs : Fields) : Safe (makeSkipped tr cs) := by
  unfold makeSkipped
  simp only [safe_bind, difference_safe, safe_chk64, safe_pure, and_self]

theorem makeRepeated_safe (tr : Transition) (cs : Fields) : Safe (makeRepeated tr cs) := by
  unfold makeRepeated
  simp only [safe_bind, difference_safe, safe_chk64, safe_pure, and_self]

theorem yearShift_safe (cs : Fields) (s : Int) : Safe (yearShift cs s) := by
  unfold yearShift
  simp only [safe_bind, safe_chk64, civilNew_safe, and_self]

theorem timeLocalShift_safe (cl : CivilLookup) (s : Int) : Safe (timeLocalShift cl s) := by
  unfold timeLocalShift
  simp only [safe_bind, safe_ite_iff, safe_chk64, safe_pure, implies_true, and_self]

theorem breakTimeCore_safe (z : Zone) (hz : Spec.TableIdx z) (hint : Nat) (t : Int) :
    Safe (breakTimeCore z hint t) := by
  unfold breakTimeCore
  have hne := hz.nonempty
  extract_lets timecnt i jp
  refine safe_bind_all (getTrans_safe z 0 hne) fun first => ?_
  refine safe_ite (fun _ => ?_) fun _ => ?_
  · refine safe_bind_all (getType_safe _ _ hz.defaultIdx) fun _ => ?_
    exact safe_bind_all (localTimeTT_safe ..) fun _ => safe_pure _
  refine safe_bind_of _ (getTrans_holds z hz (timecnt - 1) (by omega)) fun last hlast => ?_
  refine safe_ite (fun _ => safe_bind_all (localTimeTr_safe _ _ _ hlast) fun _ => safe_pure _) fun _ => ?_
  have hjp : ∀ u, Safe (jp u) := by
    intro u
    have hi : i ≤ z.transitions.size := upperBoundTime_le _ _
    refine safe_bind_of _ (getTrans_holds z hz (i - 1) (by omega)) fun tr htr => ?_
    exact safe_bind_all (localTimeTr_safe _ _ _ htr) fun _ => safe_pure _
  refine safe_ite (fun hh => ?_) fun _ => hjp ()
  refine safe_bind_of _ (getTrans_holds z hz (hint - 1) (by omega)) fun a ha => ?_
  refine safe_ite (fun _ => ?_) fun _ => hjp ()
  refine safe_bind_all (getTrans_safe z hint hh.2) fun b => ?_
  exact safe_ite (fun _ => safe_bind_all (localTimeTr_safe _ _ _ ha) fun _ => safe_pure _) fun _ => hjp ()

theorem breakTime_safe (z : Zone) (hz : Spec.TableIdx z) (hint : Nat) (t : Int) :
    Safe (breakTime z hint t) := by
  unfold breakTime
  have hne := hz.nonempty
  simp only [safe_bind, safe_ite_iff, getTrans_safe z 0 hne,
    getTrans_safe z (z.transitions.size - 1) (by omega), safe_chk64, breakTimeCore_safe z hz,
    yearShift_safe, safe_pure, implies_true, and_self]

/-- when `makeTimeCore` asks for the `TimeLocal` path, the year is beyond `last_year_` and the
shift is the number of 400-year cycles that brings it back -/
def MTPost (z : Zone) (cs : Fields) (r : (CivilLookup ⊕ Int) × Nat) : Prop :=
  ∀ s, r.1 = Sum.inr s → ∃ ly, z.lastYear = some ly ∧ cs.y > ly ∧ s = cdiv (cs.y - ly - 1) 400 + 1

theorem mtpost_inl (z : Zone) (cs : Fields) (c : CivilLookup) (h : Nat) : MTPost z cs (Sum.inl c, h) :=
  fun _ hs => by cases hs

theorem findTr_le (z : Zone) (hint : Nat) (cs : Fields) (first last : Transition) :
    Holds (Tc.findTr z hint cs first last) (fun p => p.1 ≤ z.transitions.size) := by
  unfold Tc.findTr Tc.viaHintC
  refine holds_ite (fun _ => holds_pure _ (Nat.zero_le _)) fun _ => ?_
  refine holds_ite (fun _ => holds_pure _ (Nat.le_refl _)) fun _ => ?_
  refine holds_bind (fun b => b = true → hint < z.transitions.size) ?_ fun viaHint hv => ?_
  · refine holds_ite (fun hh => ?_) fun _ => holds_pure _ (fun h => by cases h)
    refine holds_bind_safe (getTrans_safe z (hint - 1) (by omega)) fun a => ?_
    refine holds_ite (fun _ => ?_) fun _ => holds_pure _ (fun h => by cases h)
    exact holds_bind_safe (getTrans_safe z hint hh.2) fun b => holds_pure _ (fun _ => hh.2)
  · exact holds_ite (fun hv' => holds_pure _ (Nat.le_of_lt (hv hv')))
      fun _ => holds_pure _ (upperBoundCivil_le _ _)

theorem uniqueAns_spec (z : Zone) (p : Transition) (cs : Fields) (h' : Nat) :
    Holds (Tc.uniqueAns p cs h') (MTPost z cs) := by
  refine holds_bind_safe (difference_safe ..) fun _ => ?_
  apply holds_chk64_bind
  exact holds_pure _ (mtpost_inl _ _ _ _)

theorem inlAns_spec (z : Zone) (cs : Fields) {x : Ck CivilLookup} (hx : Safe x) (h' : Nat) :
    Holds (Tc.inlAns x h') (MTPost z cs) :=
  holds_bind_safe hx fun _ => holds_pure _ (mtpost_inl _ _ _ _)

theorem headAns_spec (z : Zone) (hz : Spec.TableIdx z) (cs : Fields) (h' : Nat) :
    Holds (Tc.headAns z cs h') (MTPost z cs) := by
  refine holds_bind_safe (getType_safe _ _ hz.defaultIdx) fun tt => ?_
  refine holds_ite (fun _ => holds_pure _ (mtpost_inl _ _ _ _)) fun _ => ?_
  refine holds_bind_safe (civilAdd_safe ..) fun _ => ?_
  exact holds_bind_safe (difference_safe ..) fun _ => holds_pure _ (mtpost_inl _ _ _ _)

theorem tailAns_spec (z : Zone) (hz : Spec.TableIdx z) (cs : Fields) (last : Transition) (h' : Nat)
    (hlast : last.typeIndex < z.types.size) : Holds (Tc.tailAns z cs last h') (MTPost z cs) := by
  have tail : Holds (do
      let tt ← getType z last.typeIndex
      if Civil.lt tt.civilMax cs = true then pure (Sum.inl (mkUnique i64max), h')
        else Tc.uniqueAns last cs h' : Tc.Ans) (MTPost z cs) :=
    holds_bind_safe (getType_safe _ _ hlast) fun tt =>
      holds_ite (fun _ => holds_pure _ (mtpost_inl _ _ _ _)) fun _ => uniqueAns_spec z last cs h'
  refine holds_ite (fun hext => ?_) fun _ => tail
  obtain ⟨ly, hly⟩ := Option.isSome_iff_exists.1 (hz.lastYearSet hext)
  rw [hly]
  refine holds_pure_bind _ (holds_ite (fun hgt => ?_) fun _ => tail)
  apply holds_chk64_bind; apply holds_chk64_bind; apply holds_chk64_bind
  apply holds_pure
  intro s hs
  cases hs
  exact ⟨ly, hly, hgt, rfl⟩

theorem answerAt_spec (z : Zone) (hz : Spec.TableIdx z) (cs : Fields) (first last : Transition)
    (tr h' : Nat) (hlast : last.typeIndex < z.types.size) (htr : tr ≤ z.transitions.size) :
    Holds (Tc.answerAt z cs first last tr h') (MTPost z cs) := by
  unfold Tc.answerAt
  refine holds_ite (fun _ => ?_) fun _ => holds_ite (fun _ => ?_) fun hsz => ?_
  · exact holds_ite (fun _ => headAns_spec z hz cs h') fun _ => inlAns_spec z cs (makeSkipped_safe ..) h'
  · exact holds_ite (fun _ => tailAns_spec z hz cs last h' hlast)
      fun _ => inlAns_spec z cs (makeRepeated_safe ..) h'
  · refine holds_bind_safe (getTrans_safe z tr (Nat.lt_of_le_of_ne htr hsz)) fun t => ?_
    refine holds_ite (fun _ => inlAns_spec z cs (makeSkipped_safe ..) h') fun _ => ?_
    refine holds_bind_safe (getTrans_safe z (tr - 1) (Nat.lt_of_le_of_lt (Nat.sub_le _ _)
      (Nat.lt_of_le_of_ne htr hsz))) fun p => ?_
    exact holds_ite (fun _ => inlAns_spec z cs (makeRepeated_safe ..) h') fun _ => uniqueAns_spec z p cs h'

theorem makeTimeCore_spec (z : Zone) (hz : Spec.TableIdx z) (hint : Nat) (cs : Fields) :
    Holds (makeTimeCore z hint cs) (MTPost z cs) := by
  rw [Tc.makeTimeCore_eq]
  have hne := hz.nonempty
  refine holds_bind _ (getTrans_holds z hz 0 hne) fun first _ => ?_
  refine holds_bind _ (getTrans_holds z hz (z.transitions.size - 1) (by omega)) fun last hlast => ?_
  exact holds_bind _ (findTr_le z hint cs first last) fun r hr => answerAt_spec z hz cs first last _ _ hlast hr

/-- a valid civil second is its own normal form -/
theorem nSec_id (f : Fields) (hf : Spec.Valid f) : (Civil.nSec f.y f.m f.d f.hh f.mm f.ss).val = f := by
  have n := nSec_norm f.y f.m f.d f.hh f.mm f.ss
  have hf' := hf
  obtain ⟨h1, h2, h3, h4, h5, h6, h7, h8, h9, h10⟩ := hf'
  refine (Cctz.secNum_inj hf (n.valid (by omega) (by omega) (by omega)) ?_).symm
  rw [n.secNum, monthDay_of_range _ _ _ h1 h2]
  unfold Spec.secNum
  omega

/-- shifting a valid civil second by whole 400-year cycles only changes the year -/
theorem yearShift_val (cs : Fields) (hcs : Spec.Valid cs) (k : Int) :
    (yearShift cs (k * 400)).val.y = cs.y + k * 400 := by
  have hv : Spec.Valid ⟨cs.y + k * 400, cs.m, cs.d, cs.hh, cs.mm, cs.ss⟩ := by
    obtain ⟨h1, h2, h3, h4, h5⟩ := hcs
    exact ⟨h1, h2, h3, by rw [show cs.y + k * 400 = cs.y + 400 * k by omega, daysInMonth_add_400_mul]; exact h4, h5⟩
  have := nSec_id _ hv
  show (Civil.align .second (Civil.nSec (cs.y + k * 400) cs.m cs.d cs.hh cs.mm cs.ss).val).y = _
  dsimp only at this
  rw [this]
  rfl

theorem makeTime_safe (z : Zone) (hz : Spec.TableIdx z) (hint : Nat) (cs : Fields)
    (hcs : Spec.Valid cs) : Safe (makeTime z hint cs) := by
  unfold makeTime
  refine safe_bind_of _ (makeTimeCore_spec z hz hint cs) ?_
  rintro ⟨r, h⟩ hr
  dsimp only
  split
  · exact safe_pure _
  rename_i shift
  obtain ⟨ly, hly, hgt, hs⟩ := hr shift rfl
  refine safe_bind_of (fun m => m = shift * -400) (holds_chk64 _) ?_
  rintro _ rfl
  refine safe_bind_of (fun cs' => cs' = (yearShift cs (shift * -400)).val)
    (holds_val (yearShift_safe ..)) ?_
  rintro _ rfl
  refine safe_bind_of _ (makeTimeCore_spec z hz h _) ?_
  rintro ⟨r2, h2⟩ hr2
  dsimp only
  split
  · exact safe_bind_all (timeLocalShift_safe ..) fun _ => safe_pure _
  · rename_i s2
    exfalso
    obtain ⟨ly2, hly2, hgt2, _⟩ := hr2 s2 rfl
    rw [hly] at hly2
    cases hly2
    rw [show shift * -400 = (-shift) * 400 by omega, yearShift_val cs hcs] at hgt2
    rw [cdiv_eq] at hs
    split at hs <;> omega

theorem convert_safe (z : Zone) (hz : Spec.TableIdx z) (hint : Nat) (cs : Fields)
    (hcs : Spec.Valid cs) : Safe (convert z hint cs) := by
  unfold convert
  simp only [safe_bind, makeTime_safe z hz hint cs hcs, safe_pure, and_self]

theorem next_skip_spec (z : Zone) (hz : Spec.TableIdx z) (b i fuel : Nat) (hi : i ≤ z.transitions.size) :
    Holds (nextTransition.skip z b i fuel) (fun r => r ≤ z.transitions.size) := by
  induction fuel generalizing i with
  | zero => exact holds_pure _ hi
  | succ n ih =>
    unfold nextTransition.skip
    split
    · exact holds_pure _ hi
    rename_i hne
    have hlt : i < z.transitions.size := by omega
    refine holds_bind (fun p => p < z.types.size) ?_ fun p hp => ?_
    · unfold prevTypeIndex
      split
      · exact holds_pure _ hz.defaultIdx
      · refine holds_bind _ (getTrans_holds z hz (i - 1) (by omega)) fun t ht => ?_
        exact holds_pure _ ht
    refine holds_bind _ (getTrans_holds z hz i hlt) fun tr htr => ?_
    refine holds_bind_safe (equivTransitions_safe _ _ _ hp htr) fun e => ?_
    split
    · exact holds_pure _ hi
    · exact ih _ (by omega)

theorem nextTransition_safe (z : Zone) (hz : Spec.TableIdx z) (t : Int) :
    Safe (nextTransition z t) := by
  unfold nextTransition
  have hne := hz.nonempty
  split
  · exact safe_pure _
  refine safe_bind_all (getTrans_safe z 0 hne) fun first => ?_
  extract_lets beginIdx start
  have hb : beginIdx ≤ z.transitions.size := by
    show (if _ then 1 else 0) ≤ _
    split <;> omega
  have hstart := (upperBoundTimeFrom_bounds z.transitions beginIdx t hb).2
  refine safe_bind_of _ (next_skip_spec z hz beginIdx start _ hstart) fun i hi => ?_
  split
  · exact safe_pure _
  · refine safe_bind_all (getTrans_safe z i (by omega)) fun tr => ?_
    exact safe_bind_all (civilAdd_safe ..) fun _ => safe_pure _

theorem prev_skip_spec (z : Zone) (hz : Spec.TableIdx z) (b i fuel : Nat) (hi : i ≤ z.transitions.size) :
    Holds (prevTransition.skip z b i fuel) (fun r => r ≤ z.transitions.size) := by
  have hne := hz.nonempty
  induction fuel generalizing i with
  | zero => exact holds_pure _ hi
  | succ n ih =>
    unfold prevTransition.skip
    split
    · exact holds_pure _ hi
    refine holds_bind (fun p => p < z.types.size) ?_ fun p hp => ?_
    · split
      · exact holds_pure _ hz.defaultIdx
      · refine holds_bind _ (getTrans_holds z hz (i - 2) (by omega)) fun t ht => ?_
        exact holds_pure _ ht
    refine holds_bind _ (getTrans_holds z hz (i - 1) (by omega)) fun tr htr => ?_
    refine holds_bind_safe (equivTransitions_safe _ _ _ hp htr) fun e => ?_
    split
    · exact holds_pure _ hi
    · exact ih _ (by omega)

theorem prevTransition_safe (z : Zone) (hz : Spec.TableIdx z) (t : Int) :
    Safe (prevTransition z t) := by
  unfold prevTransition
  have hne := hz.nonempty
  split
  · exact safe_pure _
  refine safe_bind_all (getTrans_safe z 0 hne) fun first => ?_
  extract_lets beginIdx start
  have hb : beginIdx ≤ z.transitions.size := by
    show (if _ then 1 else 0) ≤ _
    split <;> omega
  have hstart := (lowerBoundTimeFrom_bounds z.transitions beginIdx t hb).2
  refine safe_bind_of _ (prev_skip_spec z hz beginIdx start _ hstart) fun i hi => ?_
  split
  · exact safe_pure _
  · refine safe_bind_all (getTrans_safe z (i - 1) (by omega)) fun tr => ?_
    exact safe_bind_all (civilAdd_safe ..) fun _ => safe_pure _

end Cctz.Ld
