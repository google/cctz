/-
  Round-trip helper proofs, parse side: the specifier loop one step at a time; when `%E*S` writes no
  fraction; texts without NUL (`parse` reads its arguments as C strings).
-/
import Cctz.Proofs.PaPercent
import Cctz.Proofs.RtFields

namespace Cctz.Wr
open Cctz Cctz.Bytes Cctz.Format Cctz.Parse Cctz.Spec Cctz.Pa Cctz.Rt

theorem specLoop_step (sp : Strptime) (n : Nat) (st : PState) (d : Bytes) (hd : st.data = some d)
    (hf : st.fmt ≠ []) : specLoop sp (n + 1) st = specLoop sp n (stepSpec sp st d) := by
  rw [specLoop]
  simp only [hd]
  rw [if_neg (by simpa using hf)]

theorem specLoop_done (sp : Strptime) (n : Nat) (st : PState) (hf : st.fmt = []) :
    specLoop sp n st = st := by
  cases n with
  | zero => rfl
  | succ n =>
    rw [specLoop]
    split
    · rfl
    · rw [if_pos (by simp [hf])]

/-! ### the fraction with its trailing zeros removed -/

theorem fracStar_zero : fracStar 0 = [] := by decide +kernel

theorem fracStar_nil (fs : Int) (h0 : 0 ≤ fs) (h1 : fs < 1000000000000000) (h : fracStar fs = []) : fs = 0 := by
  obtain ⟨_, _, hval⟩ := decPad15 fs.toNat (by omega)
  obtain ⟨j, hj⟩ := strip_spec (decPad 15 fs.toNat)
  unfold fracStar at h
  rw [h, List.nil_append] at hj
  rw [hj, nv_replicate_zero] at hval
  omega

def NoNul (l : Bytes) : Prop := ∀ c ∈ l, c ≠ 0

theorem NoNul.append {a b : Bytes} (ha : NoNul a) (hb : NoNul b) : NoNul (a ++ b) := by
  intro c hc
  rcases List.mem_append.1 hc with h | h
  · exact ha c h
  · exact hb c h

theorem NoNul.cons {c : UInt8} {b : Bytes} (hc : c ≠ 0) (hb : NoNul b) : NoNul (c :: b) := by
  intro x hx
  rcases List.mem_cons.1 hx with h | h
  · rw [h]; exact hc
  · exact hb x h

theorem noNul_nil : NoNul [] := by intro c hc; cases hc

theorem noNul_format64 (y : Int) : NoNul (format64 0 y) := by
  rw [Fm.format64_zero]
  intro c hc
  rcases decInt_mem y c hc with h | h
  · rw [h]; decide
  · exact digit_ne_zero c h

theorem fracStar_digits (fs : Int) (h0 : 0 ≤ fs) (h1 : fs < 1000000000000000) :
    ∀ c ∈ fracStar fs, isDigit c = true := by
  obtain ⟨_, hdig, _⟩ := decPad15 fs.toNat (by omega)
  intro c hc
  unfold fracStar at hc
  rw [List.mem_reverse] at hc
  have := (List.dropWhile_sublist (fun x => decide (x = 48))).subset hc
  exact hdig c (List.mem_reverse.1 this)

theorem noNul_frac (fs : Int) (h0 : 0 ≤ fs) (h1 : fs < 1000000000000000) :
    NoNul (if fracStar fs = [] then [] else 46 :: fracStar fs) := by
  split
  · exact noNul_nil
  · exact NoNul.cons (by decide) (fun c hc => digit_ne_zero c (fracStar_digits fs h0 h1 c hc))

end Cctz.Wr
