/-
  C12Tables helper proofs: one pass over `Load` (staged as in Cctz/Proofs/LdStages.lean) collecting
  the facts about the table it returns: the civil columns, the order of the civil column, the order
  of the times of a table that was not extended, the two sentinels and (when no flag was raised) the
  int64 range of all times.
-/
import Cctz.Proofs.LtExtend
import Cctz.Proofs.LtFill
import Cctz.Proofs.LdLoad

namespace Cctz.Lt
open Cctz Cctz.Tz Cctz.Spec Cctz.Ld

/-! ### list facts about the two sentinels -/

theorem exists_concat (l : List Int) (h : l ≠ []) : ∃ pre, l = pre ++ [l.getLastD 0] := by
  induction l with
  | nil => exact absurd rfl h
  | cons a rest ih =>
    cases rest with
    | nil => exact ⟨[], rfl⟩
    | cons b rest =>
      obtain ⟨pre, hp⟩ := ih (by simp)
      refine ⟨a :: pre, ?_⟩
      have hl : (a :: b :: rest).getLastD 0 = (b :: rest).getLastD 0 := by simp
      rw [hl, List.cons_append, ← hp]

/-- the times after the second sentinel was considered -/
def withSecond (l : List Int) : List Int := if l.getLastD 0 < 0 then l ++ [Gen.sentinelSecond] else l

structure TimeFacts (c : Bool) (ext : Bool) (l : List Int) : Prop where
  sorted : ext = false → l.Pairwise (· < ·)
  first : ∃ a rest, l = a :: rest ∧ a < 0
  last : ∃ pre x, l = pre ++ [x] ∧ 0 ≤ x
  range : c = true → ∀ t ∈ l, inI64 t

theorem timeFacts_of (c ext : Bool) (L0 E : List Int) (h0 : Times0 L0) (hE : ext = false → E = [])
    (hR : c = true → ∀ t ∈ E, inI64 t) : TimeFacts c ext (withSecond (L0 ++ E)) := by
  obtain ⟨a, rest, hL0, ha⟩ := h0.headNeg
  have hne : L0 ++ E ≠ [] := by rw [hL0]; simp
  unfold withSecond
  refine ⟨?_, ?_, ?_, ?_⟩
  · intro he
    rw [hE he, List.append_nil]
    split
    · rename_i hl
      exact pairwise_push_second _ h0.sorted hl
    · exact h0.sorted
  · split
    · exact ⟨a, rest ++ E ++ [Gen.sentinelSecond], by rw [hL0]; simp, ha⟩
    · exact ⟨a, rest ++ E, by rw [hL0]; simp, ha⟩
  · split
    · exact ⟨_, _, rfl, by decide⟩
    · rename_i hl
      obtain ⟨pre, hp⟩ := exists_concat _ hne
      exact ⟨pre, _, hp, by omega⟩
  · intro hc t ht
    have hall : ∀ t ∈ L0 ++ E, inI64 t := by
      intro t ht
      rw [List.mem_append] at ht
      rcases ht with ht | ht
      · exact h0.range t ht
      · exact hR hc t ht
    split at ht
    · rw [List.mem_append, List.mem_singleton] at ht
      rcases ht with ht | rfl
      · exact hall t ht
      · decide
    · exact hall t ht

theorem timesOf_first (trans : Array Transition) (d : Nat) :
    timesOf (if trans.isEmpty ∨ ((trans[0]?.map (·.unixTime)).getD 0 : Int) ≥ 0 then
        #[({ unixTime := Gen.sentinelFirst, typeIndex := d } : Transition)] ++ trans else trans) =
      if (timesOf trans).isEmpty = true ∨ (timesOf trans).headD 0 ≥ 0 then
        Gen.sentinelFirst :: timesOf trans else timesOf trans := by
  obtain ⟨l⟩ := trans
  cases l with
  | nil => simp [timesOf]
  | cons a rest =>
    have e1 : (Array.mk (a :: rest)).isEmpty = false := rfl
    have e2 : ((Array.mk (a :: rest))[0]?.map (·.unixTime)).getD 0 = a.unixTime := rfl
    have e3 : timesOf (Array.mk (a :: rest)) = a.unixTime :: rest.map (·.unixTime) := rfl
    rw [e1, e2, e3]
    simp only [Bool.false_eq_true, false_or, List.isEmpty_cons, List.headD_cons]
    split
    · simp [timesOf]
    · rfl

theorem last_time (z : Zone) : (trn z (z.transitions.size - 1)).unixTime = (timesOf z.transitions).getLastD 0 := by
  unfold timesOf
  rw [List.getLastD_eq_getLast?, List.getLast?_eq_getElem?, List.getElem?_map, trn_toList,
    List.length_map, Array.length_toList]
  cases z.transitions.toList[z.transitions.size - 1]? <;> rfl

theorem timeOf_eq (z : Zone) (i : Nat) : timeOf z i = ((timesOf z.transitions)[i]?).getD 0 := by
  unfold timeOf timesOf
  rw [trn_toList, List.getElem?_map]
  cases z.transitions.toList[i]? <;> rfl

/-- what a `Load` stage promises about the table it returns -/
structure LoadFacts (c : Bool) (z : Zone) : Prop where
  cols : CivilCols z
  sorted : CivilSorted z
  times : TimeFacts c z.extended (timesOf z.transitions)

def LoadPostT (c : Bool) (r : LoadResult) : Prop := ∀ z, r = .ok z → LoadFacts c z

theorem loadPostT_fail (c : Bool) : LoadPostT c .fail := fun _ h => by cases h

theorem loadFinish_G (c : Bool) (trans : Array Transition) (types : Array TransitionType)
    (defaultType : Nat) (abbrs spec : Bytes) (h1 : (timesOf trans).Pairwise (· < ·))
    (h2 : ∀ t ∈ timesOf trans, inI64 t) :
    G c (loadFinish trans types defaultType abbrs spec) (LoadPostT c) := by
  unfold loadFinish
  extract_lets trans' z
  have h0 : Times0 (timesOf z.transitions) := by
    show Times0 (timesOf trans')
    show Times0 (timesOf (if _ then _ else _))
    rw [timesOf_first]
    exact times0_first _ h1 h2
  refine G_bind _ (extendTransitions_G c z) fun r hr => ?_
  split
  · exact G_pure _ (loadPostT_fail c)
  rename_i z1
  obtain ⟨extra, e1, e2, e3⟩ := (hr z1 rfl).trans
  refine G_bind (fun a => a = trn z1 (z1.transitions.size - 1)) (G_of_val (Tl.getTrans_val _ _))
    fun last hlast => ?_
  extract_lets z2
  have b1 : timesOf z2.transitions = withSecond (timesOf z1.transitions) := by
    unfold withSecond
    rw [← last_time, ← hlast]
    show timesOf (if _ then _ else _ : Zone).transitions = _
    split
    · exact timesOf_push _ _
    · rfl
  have b2 : z2.extended = z1.extended := by
    show (if _ then _ else _ : Zone).extended = _
    split <;> rfl
  clear_value z2
  refine G_bind (fun a => a = (fillCivil z2).val) (G_of_val rfl) fun r3 hr3 => ?_
  split
  · exact G_pure _ (loadPostT_fail c)
  rename_i z3
  refine G_bind (fun a => a = (fillTypes z3).val) (G_of_val rfl) fun z4 hz4 => ?_
  apply G_pure
  intro z' hz'
  cases hz'
  subst hz4
  have F := filled_of z2 z3 hr3.symm
  refine ⟨F.cols, F.civilSorted, ?_⟩
  rw [F.times_eq, F.ext, b1, b2]
  have e1' : timesOf z1.transitions = timesOf z.transitions ++ extra.map (·.unixTime) := by
    unfold timesOf; rw [e1, List.map_append]
  rw [e1']
  refine timeFacts_of c _ _ _ h0 ?_ ?_
  · intro h; rw [e2 h]; rfl
  · intro hc t ht
    obtain ⟨x, hx, rfl⟩ := List.mem_map.1 ht
    exact (e3 x hx).2 hc

theorem loadTables_G (c : Bool) (hdr : Header) (timeLen : Nat) (rest : Bytes) (version : UInt8)
    (tbuf : Bytes) : G c (loadTables hdr timeLen rest version tbuf) (LoadPostT c) := by
  refine loadTables_elim (P := fun x => G c x (LoadPostT c)) hdr timeLen rest version tbuf
    (G_pure _ (loadPostT_fail c)) fun types hinc _ _ => ?_
  have ht : timesOf (transAt hdr timeLen tbuf) =
      (timesAt hdr timeLen tbuf).take (idxsAt hdr timeLen tbuf).length := zipWith_times _ _
  refine G_bind_any fun defaultType => ?_
  cases footerOf version rest with
  | none => exact G_pure _ (loadPostT_fail c)
  | some spec =>
    refine loadFinish_G c _ _ _ _ _ ?_ ?_
    · rw [ht]
      exact (strictlyIncreasing_pairwise _ hinc).sublist (List.take_sublist _ _)
    · intro t h
      rw [ht] at h
      exact decodeTimes_inI64 _ _ _ t (List.mem_of_mem_take h)

theorem load_G (c : Bool) (cfg : LoadCfg) (src : Bytes) : G c (load cfg src) (LoadPostT c) :=
  load_elim (P := fun x => G c x (LoadPostT c)) cfg src (G_pure _ (loadPostT_fail c)) fun hdr timeLen rest v _ =>
    loadBody_elim (P := fun x => G c x (LoadPostT c)) cfg hdr timeLen rest v (G_pure _ (loadPostT_fail c))
      (G_pure _ fun _ h => by cases h) fun _ _ _ _ _ _ => loadTables_G c _ _ _ _ _

end Cctz.Lt
