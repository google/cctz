/-
  C12 helper proofs: the pieces of `Load` (type decoding, the default-type search, the
  civil-second columns) and `Load` itself: memory-safe for every byte string, and the table of a
  successful load has all its indices in range.
-/
import Cctz.Proofs.LdExtend
import Cctz.Proofs.LdStages
import Cctz.Proofs.LtFill
import Cctz.Proofs.LtExtend

namespace Cctz.Ld
open Cctz Cctz.Wd Cctz.Tz

theorem decodeTypes_length (bp : Bytes) (c n : Nat) (l : List TransitionType)
    (h : decodeTypes bp c n = some l) : l.length = n := by
  induction n generalizing bp l with
  | zero => simp [decodeTypes] at h; subst h; rfl
  | succ n ih =>
    unfold decodeTypes at h
    dsimp only at h
    split at h
    · cases h
    · split at h
      · cases h
      · cases hr : decodeTypes (List.drop 6 bp) c n with
        | none => rw [hr] at h; cases h
        | some r =>
          rw [hr] at h
          simp only [Option.map_some, Option.some.injEq] at h
          subst h
          simp [ih _ _ hr]

theorem zipWith_idx (times : List Int) (idxs : List Nat) :
    ∀ t ∈ List.zipWith (fun t i => ({ unixTime := t, typeIndex := i } : Transition)) times idxs,
      t.typeIndex ∈ idxs := by
  induction times generalizing idxs with
  | nil => intro t ht; simp at ht
  | cons a as ih =>
    cases idxs with
    | nil => intro t ht; simp at ht
    | cons i is =>
      intro t ht
      rw [List.zipWith_cons_cons, List.mem_cons] at ht
      rcases ht with rfl | ht
      · exact List.mem_cons_self
      · exact List.mem_cons_of_mem _ (ih is t ht)

theorem down_le (isDst : Nat → Bool) (i fuel : Nat) : defaultTypeSearch.down isDst i fuel ≤ i := by
  induction fuel generalizing i with
  | zero => simp [defaultTypeSearch.down]
  | succ n ih =>
    unfold defaultTypeSearch.down
    split
    · exact Nat.le_trans (ih _) (Nat.sub_le _ _)
    · exact Nat.le_refl _

theorem up_spec (tc : Nat) (isDst : Nat → Bool) (i fuel : Nat) (hi : i ≤ tc) (hf : tc - i < fuel) :
    Holds (defaultTypeSearch.up tc isDst i fuel) (fun r => r ≤ tc) := by
  induction fuel generalizing i with
  | zero => omega
  | succ n ih =>
    unfold defaultTypeSearch.up
    split
    · exact ih _ (by omega) (by omega)
    · exact holds_pure _ hi

theorem defaultTypeSearch_spec (types : Array TransitionType) (hdrTc first : Nat)
    (hfirst : first ≤ min hdrTc 256) :
    Holds (defaultTypeSearch types hdrTc first) (fun r => r.1 ≤ r.2 ∧ r.2 = min hdrTc 256) := by
  unfold defaultTypeSearch
  dsimp only
  refine holds_bind' (fun r => r ≤ min hdrTc 256) ?_ fun idx hidx => holds_pure _ ⟨hidx, rfl⟩
  have h256 : min hdrTc 256 ≤ 256 := Nat.min_le_right _ _
  split
  · refine up_spec _ _ _ _ (Nat.le_trans (down_le _ _ _) hfirst) ?_
    omega
  · exact up_spec _ _ _ _ (Nat.zero_le _) (by omega)

theorem fillCivil_safe (z : Zone) (hz : AllIdx z.transitions z.types.size)
    (hd : z.defaultType < z.types.size) : Safe (fillCivil z) := by
  have go : ∀ fuel i ttIdx acc, ttIdx < z.types.size → Safe (fillCivil.go z i ttIdx acc fuel) := by
    intro fuel
    induction fuel with
    | zero => intro _ _ _ _; exact safe_pure _
    | succ n ih =>
      intro i ttIdx acc htt
      unfold fillCivil.go
      split
      · exact safe_pure _
      · rename_i tr htr
        have htri : tr.typeIndex < z.types.size := by
          rw [Array.getElem?_eq_some_iff] at htr
          obtain ⟨hlt, rfl⟩ := htr
          exact hz _ (Array.getElem_mem_toList hlt)
        simp only [safe_bind, safe_ite_iff, getType_safe z _ htt, getType_safe z _ htri, localTimeTT_safe,
          civilSub_safe, safe_pure, ih _ _ _ htri, implies_true, and_self]
  unfold fillCivil
  simp only [safe_bind, go _ 0 _ #[] hd, true_and]
  split <;> exact safe_pure _

theorem fillTypes_safe (z : Zone) : Safe (fillTypes z) := by
  have go : ∀ l, Safe (fillTypes.go z l) := by
    intro l
    induction l with
    | nil => exact safe_pure _
    | cons tt rest ih =>
      unfold fillTypes.go
      simp only [safe_bind, localTimeTT_safe, ih, safe_pure, and_self]
  unfold fillTypes
  simp only [safe_bind, go, safe_pure, and_self]

/-! ### from list membership to the index form of the specification -/

theorem tableIdx_of (z : Zone) (h1 : 0 < z.transitions.size) (h2 : AllIdx z.transitions z.types.size)
    (h3 : z.defaultType < z.types.size) (h4 : z.extended = true → z.lastYear.isSome = true) :
    Spec.TableIdx z := by
  refine ⟨h1, ?_, h3, h4⟩
  intro i hi
  unfold Spec.trn
  rw [Array.getD_eq_getD_getElem?, Array.getElem?_eq_getElem hi]
  exact h2 _ (Array.getElem_mem_toList hi)

theorem allIdx_of_tableIdx (z : Zone) (h : Spec.TableIdx z) : AllIdx z.transitions z.types.size := by
  intro t ht
  obtain ⟨i, hi, rfl⟩ := List.getElem_of_mem ht
  have hi' : i < z.transitions.size := by simpa using hi
  have := h.typeIdx i hi'
  unfold Spec.trn at this
  rw [Array.getD_eq_getD_getElem?, Array.getElem?_eq_getElem hi'] at this
  simpa using this

/-- the promise of a `Load` stage: a table returned has all indices in range -/
def LoadPost (r : LoadResult) : Prop := ∀ z, r = .ok z → Spec.TableIdx z

theorem loadPost_fail : LoadPost .fail := fun _ h => by cases h

theorem loadFinish_spec (trans : Array Transition) (types : Array TransitionType) (defaultType : Nat)
    (abbrs spec : Bytes) (h1 : AllIdx trans types.size) (h2 : defaultType < types.size) :
    Holds (loadFinish trans types defaultType abbrs spec) LoadPost := by
  unfold loadFinish
  extract_lets trans' z
  have hpre : ExtPre z := by
    constructor
    · show 0 < trans'.size
      show 0 < (if _ then _ else _ : Array Transition).size
      split
      · simp; omega
      · rename_i hc
        have : ¬ trans.isEmpty = true := fun h => hc (Or.inl h)
        rw [Array.isEmpty_iff_size_eq_zero] at this
        omega
    · show AllIdx trans' types.size
      show AllIdx (if _ then _ else _) _
      split
      · intro t ht
        rw [Array.toList_append, List.mem_append] at ht
        rcases ht with ht | ht
        · simp at ht; subst ht; exact h2
        · exact h1 t ht
      · exact h1
  refine holds_bind _ (holds_val (extendTransitions_safe z hpre)) fun r hr => ?_
  subst hr
  split
  · exact holds_pure _ loadPost_fail
  rename_i z1 hz1
  have E := Lt.G_false (Lt.extendTransitions_G false z) z1 hz1
  obtain ⟨extra, e1, _, e3⟩ := E.trans
  have a1 : z.transitions.size ≤ z1.transitions.size := by
    have := congrArg List.length e1
    simp only [Array.length_toList, List.length_append] at this
    omega
  have a4 : z.types.size ≤ z1.types.size := size_le_of_prefix E.types
  have a2 : AllIdx z1.transitions z1.types.size := fun t ht => by
    rw [e1, List.mem_append] at ht
    rcases ht with ht | ht
    · exact Nat.lt_of_lt_of_le (hpre.idx t ht) a4
    · exact (e3 t ht).1
  have a3 := E.dflt
  have a5 := E.lastYear
  have hne : z1.transitions.size - 1 < z1.transitions.size := by
    have := hpre.nonempty; omega
  refine holds_bind (fun last => last ∈ z1.transitions.toList)
    ⟨getTrans_safe _ _ hne, getTrans_val_mem _ _ hne⟩ fun last hlast => ?_
  extract_lets z2
  have b1 : z1.transitions.size ≤ z2.transitions.size := by
    show _ ≤ (if _ then _ else _ : Zone).transitions.size
    split
    · simp
    · exact Nat.le_refl _
  have b2 : z2.types = z1.types ∧ z2.defaultType = z1.defaultType ∧ z2.extended = z1.extended ∧
      z2.lastYear = z1.lastYear := by
    show (if _ then _ else _ : Zone).types = _ ∧ (if _ then _ else _ : Zone).defaultType = _ ∧
      (if _ then _ else _ : Zone).extended = _ ∧ (if _ then _ else _ : Zone).lastYear = _
    split <;> exact ⟨rfl, rfl, rfl, rfl⟩
  have b3 : AllIdx z2.transitions z2.types.size := by
    rw [b2.1]
    show AllIdx (if _ then _ else _ : Zone).transitions _
    split
    · exact allIdx_push a2 (a2 last hlast)
    · exact a2
  have hd1 : z1.defaultType < z1.types.size := by rw [a3]; exact Nat.lt_of_lt_of_le h2 a4
  refine holds_bind _ (holds_val (fillCivil_safe z2 b3 (by rw [b2.1, b2.2.1]; exact hd1))) fun r3 hr3 => ?_
  subst hr3
  split
  · exact holds_pure _ loadPost_fail
  rename_i z3 h3
  obtain ⟨_, rfl⟩ := (Lt.fillCivil_val_iff z2 z3).1 h3
  refine holds_bind _ (holds_val (fillTypes_safe _)) fun z4 hz4 => ?_
  subst hz4
  rw [Lt.fillTypes_val]
  apply holds_pure
  intro z' hz'
  cases hz'
  refine tableIdx_of _ ?_ ?_ ?_ ?_
  · show 0 < ((List.range z2.transitions.size).map (Lt.mkTr z2)).toArray.size
    have := hpre.nonempty
    simp; omega
  · intro t ht
    obtain ⟨i, hi, rfl⟩ : ∃ i, i < z2.transitions.size ∧ Lt.mkTr z2 i = t := by simpa using ht
    show (Spec.trn z2 i).typeIndex < (z2.types.toList.map _).toArray.size
    rw [Lt.trn_toList, List.getElem?_eq_getElem (by simpa using hi)]
    have := b3 _ (List.getElem_mem (h := by simpa using hi))
    simpa using this
  · show z2.defaultType < (z2.types.toList.map _).toArray.size
    rw [b2.1, b2.2.1]; simpa using hd1
  · show z2.extended = true → z2.lastYear.isSome = true
    rw [b2.2.2.1, b2.2.2.2]; exact a5

theorem idxsAt_lt (hdr : Header) (timeLen : Nat) (tbuf : Bytes) : ∀ i ∈ idxsAt hdr timeLen tbuf, i < 256 := by
  intro i hi
  obtain ⟨c, _, rfl⟩ := List.mem_map.1 hi
  exact UInt8.toNat_lt c

theorem defaultTypeCk_spec (types : Array TransitionType) (hdr : Header) (idxs : List Nat)
    (hsz : types.size = hdr.typecnt) (htc : hdr.typecnt ≠ 0)
    (hidx : ∀ i ∈ idxs, i < hdr.typecnt ∧ i < 256) :
    Holds (defaultTypeCk types hdr idxs) (fun d => d < types.size) := by
  unfold defaultTypeCk
  split
  · have hfirst : idxs.headD 0 ≤ min hdr.typecnt 256 := by
      cases idxs with
      | nil => exact Nat.zero_le _
      | cons a as =>
        have := hidx a List.mem_cons_self
        rw [List.headD_cons]
        omega
    refine holds_bind _ (defaultTypeSearch_spec types hdr.typecnt _ hfirst) ?_
    rintro ⟨idx, tc⟩ ⟨hle, htc'⟩
    dsimp only at hle htc' ⊢
    apply holds_pure
    rw [hsz]
    split <;> omega
  · apply holds_pure; omega

theorem loadTables_spec (hdr : Header) (timeLen : Nat) (rest : Bytes) (version : UInt8) (tbuf : Bytes)
    (htc : hdr.typecnt ≠ 0) : Holds (loadTables hdr timeLen rest version tbuf) LoadPost := by
  refine loadTables_elim (P := fun x => Holds x LoadPost) hdr timeLen rest version tbuf (holds_pure _ loadPost_fail)
    fun types _ hidx htypes => ?_
  have hsz : types.toArray.size = hdr.typecnt := decodeTypes_length _ _ _ _ htypes
  refine holds_bind _ (defaultTypeCk_spec _ hdr _ hsz htc
    fun i hi => ⟨hidx i hi, idxsAt_lt hdr timeLen tbuf i hi⟩) fun defaultType hdt => ?_
  cases footerOf version rest with
  | none => exact holds_pure _ loadPost_fail
  | some spec =>
    refine loadFinish_spec _ _ _ _ _ (fun t ht => ?_) hdt
    rw [hsz]
    exact hidx _ (zipWith_idx _ _ t (by simpa [transAt] using ht))

theorem load_spec (cfg : LoadCfg) (src : Bytes) : Holds (load cfg src) LoadPost :=
  load_elim (P := fun x => Holds x LoadPost) cfg src (holds_pure _ loadPost_fail) fun hdr timeLen rest v _ =>
    loadBody_elim (P := fun x => Holds x LoadPost) cfg hdr timeLen rest v (holds_pure _ loadPost_fail)
      (holds_pure _ fun _ h => by cases h) fun _ _ _ hc _ _ => loadTables_spec _ _ _ _ _ hc.1

end Cctz.Ld
