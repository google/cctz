/-
  C04 — Civil-time construction normalises exactly to a valid Gregorian date-time.
  Statements only refer to the model (`Cctz.Civil`) and the specification (`Cctz.Spec`);
  helper lemmas live in `Cctz/Proofs`.
-/
import Cctz.Model.Civil
import Cctz.Spec.Gregorian
import Cctz.Proofs.CivilNorm

namespace Cctz.C04
open Cctz.Spec

/-- (1) the result of normalisation is a valid civil second, for all six integers -/
def nSec_valid_statement : Prop :=
  ∀ y m d hh mm ss : Int, Valid (Civil.nSec y m d hh mm ss).val

/-- (2) … and it denotes exactly the instant the six fields denote -/
def nSec_exact_statement : Prop :=
  ∀ y m d hh mm ss : Int, secNum (Civil.nSec y m d hh mm ss).val = unnormSec y m d hh mm ss

/-- (3) … and it is the only valid civil second that does -/
def nSec_unique_statement : Prop :=
  ∀ (y m d hh mm ss : Int) (f : Fields), Valid f → secNum f = unnormSec y m d hh mm ss →
    f = (Civil.nSec y m d hh mm ss).val

/-- (4) alignment: keeps the fields at and above the unit, resets the lower ones, stays valid, and
is the greatest aligned value not after `f`; converting between alignments never changes a
field at or above the coarser of the two units -/
def align_spec_statement : Prop :=
  ∀ (t : Tag) (f : Fields), Valid f →
    Valid (Civil.align t f) ∧ Aligned t (Civil.align t f) ∧ SameAbove t (Civil.align t f) f ∧
    secNum (Civil.align t f) ≤ secNum f ∧
    (∀ g, Valid g → Aligned t g → secNum g ≤ secNum f → secNum g ≤ secNum (Civil.align t f)) ∧
    (∀ u : Tag, SameAbove t (Civil.align u (Civil.align t f)) (Civil.align u f))

/-- the constructor of `civil_time<T>` is normalisation followed by alignment -/
def civilNew_spec_statement : Prop :=
  ∀ (t : Tag) (y m d hh mm ss : Int),
    let r := (Civil.civilNew t y m d hh mm ss).val
    Valid r ∧ Aligned t r ∧ SameAbove t r (Civil.nSec y m d hh mm ss).val

/-- (5) no intermediate overflow inside the representability bound: all six arguments are int64,
the year after the month carry alone (both the value `y + m/12` the code forms first and the
carried year) and the normalised year fit int64 -/
def nSec_no_overflow_statement : Prop :=
  ∀ y m d hh mm ss : Int, inI64 y → inI64 m → inI64 d → inI64 hh → inI64 mm → inI64 ss →
    inI64 (y + Int.tdiv m 12) → inI64 (y + (m - 1) / 12) →
    inI64 (Civil.nSec y m d hh mm ss).val.y →
    (Civil.nSec y m d hh mm ss).ok

theorem nSec_valid : nSec_valid_statement :=
  fun y m d hh mm ss => (nSec_norm y m d hh mm ss).valid (by omega) (by omega) (by omega)

theorem nSec_exact : nSec_exact_statement := by
  intro y m d hh mm ss
  rw [(nSec_norm y m d hh mm ss).secNum, unnormSec_eq]
  omega

theorem nSec_unique : nSec_unique_statement :=
  fun y m d hh mm ss _ hf h => secNum_inj hf (nSec_valid y m d hh mm ss) (by rw [h, nSec_exact])

theorem align_spec : align_spec_statement :=
  fun t f hf => ⟨align_valid t f hf, align_aligned t f, align_sameAbove t f, align_le t f hf,
    fun g => align_greatest t f g hf, fun u => align_align t u f⟩

theorem civilNew_spec : civilNew_spec_statement :=
  fun t y m d hh mm ss =>
    ⟨align_valid t _ (nSec_valid y m d hh mm ss), align_aligned t _, align_sameAbove t _⟩

theorem nSec_no_overflow : nSec_no_overflow_statement :=
  fun y m d hh mm ss _ _ hd hhh hmm hss hy1 => nSec_ok y m d hh mm ss hd hhh hmm hss fun _ => hy1

/-- the hypotheses of `nSec_no_overflow` are satisfiable at the edge of the range -/
example : inI64 (9223372036854775807 + Int.tdiv (-5) 12) ∧
    inI64 (9223372036854775807 + ((-5) - 1) / 12) ∧
    inI64 (Civil.nSec 9223372036854775807 (-5) 400 (-30) 70 (-9223372036854775808)).val.y := by
  decide +kernel

example : Valid ⟨2024, 3, 1, 23, 59, 59⟩ ∧
    secNum ⟨2024, 3, 1, 23, 59, 59⟩ = unnormSec 2023 14 31 (-1) 59 59 := by decide

end Cctz.C04
