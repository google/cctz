/-
  C01 gluing, the order argument (no tables, no calendar): two instant functions `s e : Int → Int`
  (the start / end instants of a rule per year) that repeat with the 400-year cycle.  If the
  instants of 402 consecutive years that are later than `L` are strictly sorted in (year, position)
  order (`Sorted`, what `TableWF` says about the generated part of a table) and `L` hides nothing of
  the years `y0+2 … y0+401` and not the later instant of year `y0+1` (`Reg`), then the instants of
  ALL years form one strictly increasing chain (`Chain`).
-/
namespace Cctz.Rg

/-- 400-year periodicity of an instant function -/
def Per (f : Int → Int) : Prop := ∀ y j, f (y + 400 * j) = f y + j * 12622780800

/-- `a` is one of the two instants of year `y` -/
def Inst (s e : Int → Int) (y a : Int) : Prop := a = s y ∨ a = e y

theorem Inst.shift {s e : Int → Int} (ps : Per s) (pe : Per e) {y a : Int} (j : Int)
    (h : Inst s e y a) : Inst s e (y + 400 * j) (a + j * 12622780800) := by
  rcases h with h | h
  · left; rw [ps, h]
  · right; rw [pe, h]

/-- what strict time order of the generated entries says: inside the 402 tabulated years the
instants later than `L` are strictly increasing in (year, position) order -/
structure Sorted (s e : Int → Int) (y0 L : Int) : Prop where
  ne : ∀ y, y0 ≤ y → y ≤ y0 + 401 → L < s y → L < e y → s y ≠ e y
  lt : ∀ y y' a b, y0 ≤ y → y < y' → y' ≤ y0 + 401 → Inst s e y a → Inst s e y' b →
    L < a → L < b → a < b

/-- the regularity assumption in terms of the instant functions -/
structure Reg (s e : Int → Int) (y0 L : Int) : Prop where
  r1 : L < s (y0 + 1) ∨ L < e (y0 + 1)
  r2 : ∀ y, y0 + 2 ≤ y → y ≤ y0 + 401 → L < s y ∧ L < e y

/-- all instants of all years form one strictly increasing chain -/
structure Chain (s e : Int → Int) : Prop where
  ne : ∀ y, s y ≠ e y
  adj : ∀ y a b, Inst s e y a → Inst s e (y + 1) b → a < b

/-- every year is congruent mod 400 to one of the 400 years `lo … lo+399` -/
theorem reduce400 (lo y : Int) : ∃ j : Int, lo ≤ y + 400 * j ∧ y + 400 * j ≤ lo + 399 :=
  ⟨-((y - lo) / 400), by omega, by omega⟩

theorem chain_of_sorted {s e : Int → Int} {y0 L : Int} (ps : Per s) (pe : Per e)
    (so : Sorted s e y0 L) (rg : Reg s e y0 L) : Chain s e := by
  -- adjacent years inside the window y0+1 … y0+401 (the last pair by periodicity)
  have adjW : ∀ y, y0 + 1 ≤ y → y ≤ y0 + 401 → ∀ a b, Inst s e y a → Inst s e (y + 1) b → a < b := by
    intro y h1 h2 a b ha hb
    by_cases hy : y = y0 + 401
    · -- (y0+401, y0+402) is (y0+1, y0+2) moved by one cycle
      subst hy
      have ha' := ha.shift ps pe (-1)
      have hb' := hb.shift ps pe (-1)
      rw [show y0 + 401 + 400 * -1 = y0 + 1 by omega] at ha'
      rw [show y0 + 401 + 1 + 400 * -1 = y0 + 2 by omega] at hb'
      have hbL : L < b + -1 * 12622780800 := by
        have := rg.r2 (y0 + 2) (by omega) (by omega)
        rcases hb' with h | h <;> omega
      by_cases haL : L < a + -1 * 12622780800
      · have := so.lt (y0 + 1) (y0 + 2) _ _ (by omega) (by omega) (by omega) ha' hb' haL hbL
        omega
      · omega
    · have hbL : L < b := by
        have := rg.r2 (y + 1) (by omega) (by omega)
        rcases hb with h | h <;> omega
      by_cases haL : L < a
      · exact so.lt y (y + 1) a b (by omega) (by omega) (by omega) ha hb haL hbL
      · omega
  refine ⟨?_, ?_⟩
  · intro y
    obtain ⟨j, h1, h2⟩ := reduce400 (y0 + 2) y
    have := rg.r2 (y + 400 * j) h1 (by omega)
    have := so.ne (y + 400 * j) (by omega) (by omega) this.1 this.2
    rw [ps, pe] at this
    omega
  · intro y a b ha hb
    obtain ⟨j, h1, h2⟩ := reduce400 (y0 + 2) y
    have ha' := ha.shift ps pe j
    have hb' := hb.shift ps pe j
    rw [show y + 1 + 400 * j = y + 400 * j + 1 by omega] at hb'
    have := adjW (y + 400 * j) (by omega) (by omega) _ _ ha' hb'
    omega

theorem Chain.lt_aux {s e : Int → Int} (c : Chain s e) (n : Nat) :
    ∀ y a b, Inst s e y a → Inst s e (y + 1 + (n : Int)) b → a < b := by
  induction n with
  | zero => intro y a b ha hb; exact c.adj y a b ha (by simpa using hb)
  | succ n ih =>
    intro y a b ha hb
    have h1 := ih y a (s (y + 1 + (n : Int))) ha (Or.inl rfl)
    have h2 := c.adj (y + 1 + (n : Int)) _ b (Or.inl rfl)
      (by rw [show y + 1 + (n : Int) + 1 = y + 1 + ((n + 1 : Nat) : Int) by omega]; exact hb)
    omega

/-- instants of an earlier year are earlier -/
theorem Chain.lt {s e : Int → Int} (c : Chain s e) {y y' a b : Int} (h : y < y')
    (ha : Inst s e y a) (hb : Inst s e y' b) : a < b := by
  have := c.lt_aux (y' - y - 1).toNat y a b ha
    (by rw [show y + 1 + (((y' - y - 1).toNat : Nat) : Int) = y' by omega]; exact hb)
  exact this

/-- an instant belongs to one year only -/
theorem Chain.year_eq {s e : Int → Int} (c : Chain s e) {y y' a : Int}
    (ha : Inst s e y a) (hb : Inst s e y' a) : y = y' := by
  by_cases h1 : y < y'
  · have := c.lt h1 ha hb; omega
  · by_cases h2 : y' < y
    · have := c.lt h2 hb ha; omega
    · omega

/-- a later instant belongs to the same or a later year -/
theorem Chain.year_le {s e : Int → Int} (c : Chain s e) {y y' a b : Int}
    (ha : Inst s e y a) (hb : Inst s e y' b) (h : a ≤ b) : y ≤ y' := by
  by_cases h2 : y' < y
  · have := c.lt h2 hb ha; omega
  · omega

end Cctz.Rg

namespace Cctz.Rg

/-- a rule whose start precedes its end and whose end precedes the next start is a chain -/
theorem chain_of_lt {s e : Int → Int} (h1 : ∀ y, s y < e y) (h2 : ∀ y, e y < s (y + 1)) : Chain s e := by
  refine ⟨fun y => by have := h1 y; omega, ?_⟩
  intro y a b ha hb
  have := h1 y; have := h2 y; have := h1 (y + 1)
  rcases ha with ha | ha <;> rcases hb with hb | hb <;> omega

end Cctz.Rg
