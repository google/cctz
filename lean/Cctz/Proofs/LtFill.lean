/-
  C12Tables helper proofs: the exact values `fillCivil` / `fillTypes` write (whatever flags were
  raised), and the column facts `CivilCols`, `CivilSorted` they give.
-/
import Cctz.Proofs.LtLogic
import Cctz.Proofs.TlFixed
import Cctz.Proofs.TbSearch
import Cctz.Proofs.LtCheck

namespace Cctz.Lt
open Cctz Cctz.Tz Cctz.Spec

/-- entry `i` with the civil columns `fillCivil` writes -/
def mkTr (z : Zone) (i : Nat) : Transition :=
  { trn z i with
    prevCivilSec := (Civil.civilSub .second
      (localTimeTT z.abbreviations (trn z i).unixTime (typ z (prevType z i))).val.cs 1).val,
    civilSec := (localTimeTT z.abbreviations (trn z i).unixTime (typ z (trn z i).typeIndex)).val.cs }

theorem go_step (z : Zone) (i ttIdx : Nat) (acc : Array Transition) (fuel : Nat) (tr : Transition)
    (h : z.transitions[i]? = some tr) (htt : ttIdx = prevType z i) :
    (fillCivil.go z i ttIdx acc (fuel + 1)).val =
      if i ≠ 0 ∧ !(Civil.lt (acc[i - 1]?.map (·.civilSec) |>.getD epoch) (mkTr z i).civilSec) then none
      else (fillCivil.go z (i + 1) (trn z i).typeIndex (acc.push (mkTr z i)) fuel).val := by
  have htr : tr = trn z i := by
    unfold trn
    rw [Array.getD_eq_getD_getElem?, h]; rfl
  subst htr htt
  rw [fillCivil.go]
  simp only [h]
  simp only [Ck.bind_val, Tl.getType_val]
  unfold mkTr
  split <;> rfl

/-- the civil column of the filled entries is increasing -/
def SortedUpTo (z : Zone) (n : Nat) : Prop :=
  ∀ k, k + 1 < n → Civil.lt (mkTr z k).civilSec (mkTr z (k + 1)).civilSec = true

/-- the loop from entry `i` on succeeds exactly when the civil column is increasing from `i - 1` on,
and then returns the entries `mkTr` -/
theorem go_iff (z : Zone) (fuel : Nat) : ∀ (i ttIdx : Nat) (acc : Array Transition),
    i + fuel = z.transitions.size → ttIdx = prevType z i →
    acc.toList = (List.range i).map (mkTr z) →
    ∀ a, (fillCivil.go z i ttIdx acc fuel).val = some a ↔
      (∀ k, i ≤ k + 1 → k + 1 < z.transitions.size →
        Civil.lt (mkTr z k).civilSec (mkTr z (k + 1)).civilSec = true) ∧
      a.toList = (List.range z.transitions.size).map (mkTr z) := by
  induction fuel with
  | zero =>
    intro i ttIdx acc hi _ hacc a
    have : i = z.transitions.size := by omega
    subst this
    unfold fillCivil.go
    rw [← hacc]
    exact ⟨fun h => ⟨fun k h1 h2 => by omega, by rw [← Option.some.inj h]⟩,
      fun h => congrArg some (Array.ext' h.2.symm)⟩
  | succ fuel ih =>
    intro i ttIdx acc hi htt hacc a
    have hlt : i < z.transitions.size := by omega
    have hprev : i ≠ 0 → acc[i - 1]? = some (mkTr z (i - 1)) := fun h0 => by
      rw [← Array.getElem?_toList, hacc, List.getElem?_map, List.getElem?_range (by omega)]; rfl
    rw [go_step z i ttIdx acc fuel _ (Array.getElem?_eq_getElem hlt) htt]
    by_cases hc : i ≠ 0 ∧ (!Civil.lt (acc[i - 1]?.map (·.civilSec) |>.getD epoch) (mkTr z i).civilSec) = true
    · rw [if_pos hc]
      refine ⟨fun h => (by cases h), fun h => ?_⟩
      have := h.1 (i - 1) (by omega) (by omega)
      rw [hprev hc.1, show i - 1 + 1 = i by omega] at *
      simp [this] at hc
    · rw [if_neg hc, ih (i + 1) _ _ (by omega) (by unfold prevType; rw [if_neg (by omega), Nat.add_sub_cancel])
        (by rw [Array.toList_push, hacc, List.range_succ, List.map_append]; rfl)]
      refine and_congr_left fun _ => ⟨fun h k h1 h2 => ?_, fun h k h1 h2 => h k (by omega) h2⟩
      by_cases hk : i = k + 1
      · subst hk
        have : ¬ ((!Civil.lt (mkTr z k).civilSec (mkTr z (k + 1)).civilSec) = true) := fun h' =>
          hc ⟨by omega, by rw [hprev (by omega)]; exact h'⟩
        simpa using this
      · exact h k (by omega) h2

theorem fillCivil_val_iff (z z' : Zone) : (fillCivil z).val = some z' ↔
    SortedUpTo z z.transitions.size ∧
      z' = { z with transitions := ((List.range z.transitions.size).map (mkTr z)).toArray } := by
  have hgo := go_iff z z.transitions.size 0 z.defaultType #[] (by omega)
    (by unfold prevType; rw [if_pos rfl]) rfl
  unfold fillCivil
  rw [Ck.bind_val]
  cases hg : (fillCivil.go z 0 z.defaultType #[] z.transitions.size).val with
  | none =>
    refine ⟨fun h => (by cases h), fun h => ?_⟩
    have := (hgo _).2 ⟨fun k _ hk => h.1 k hk, List.toList_toArray⟩
    rw [hg] at this; cases this
  | some trs =>
    obtain ⟨h1, h2⟩ := (hgo trs).1 hg
    have : trs = ((List.range z.transitions.size).map (mkTr z)).toArray := Array.ext' h2
    subst this
    exact ⟨fun h => ⟨fun k hk => h1 k (Nat.zero_le _) hk, (Option.some.inj h).symm⟩, fun h => by rw [h.2]; rfl⟩

/-- a type with the civil columns `fillTypes` writes -/
def fT (abbrs : Bytes) (tt : TransitionType) : TransitionType :=
  { tt with civilMax := (localTimeTT abbrs i64max tt).val.cs, civilMin := (localTimeTT abbrs i64min tt).val.cs }

theorem fillTypes_go_val (z : Zone) (l : List TransitionType) :
    (fillTypes.go z l).val = l.map (fT z.abbreviations) := by
  induction l with
  | nil => rfl
  | cons tt rest ih =>
    unfold fillTypes.go
    simp only [Ck.bind_val, Ck.pure_val, ih, List.map_cons]
    rfl

theorem fillTypes_val (z : Zone) :
    (fillTypes z).val = { z with types := (z.types.toList.map (fT z.abbreviations)).toArray } := by
  unfold fillTypes
  simp only [Ck.bind_val, Ck.pure_val, fillTypes_go_val]

theorem localTimeTT_cs (abbrs : Bytes) (t : Int) (tt : TransitionType) :
    Valid (localTimeTT abbrs t tt).val.cs ∧ secNum (localTimeTT abbrs t tt).val.cs = t + tt.utcOffset :=
  ⟨(Tl.localTimeTT_spec abbrs t tt).1, (Tl.localTimeTT_spec abbrs t tt).2.1⟩

/-- the local civil second entry `i` shows -/
theorem mkTr_civil (z : Zone) (i : Nat) :
    Valid (mkTr z i).civilSec ∧ secNum (mkTr z i).civilSec = timeOf z i + offOf z i :=
  localTimeTT_cs z.abbreviations (trn z i).unixTime (typ z (trn z i).typeIndex)

theorem mkTr_prev (z : Zone) (i : Nat) :
    Valid (mkTr z i).prevCivilSec ∧ secNum (mkTr z i).prevCivilSec = timeOf z i + offBefore z i - 1 := by
  -- the projections are reduced first: left to the unifier, `localTimeTT` would be run
  dsimp only [mkTr]
  obtain ⟨v, e⟩ := localTimeTT_cs z.abbreviations (trn z i).unixTime (typ z (prevType z i))
  obtain ⟨v', _, u⟩ := civilSub_spec .second _ 1 v trivial
  refine ⟨v', ?_⟩
  unfold unitNum at u
  rw [e] at u
  exact u

theorem fT_cols (abbrs : Bytes) (tt : TransitionType) :
    (Valid (fT abbrs tt).civilMax ∧ secNum (fT abbrs tt).civilMax = i64max + (fT abbrs tt).utcOffset) ∧
    (Valid (fT abbrs tt).civilMin ∧ secNum (fT abbrs tt).civilMin = i64min + (fT abbrs tt).utcOffset) := by
  dsimp only [fT]
  exact ⟨localTimeTT_cs abbrs i64max tt, localTimeTT_cs abbrs i64min tt⟩

/-! ### the columns of the table after both fills -/

theorem trn_toList (z : Zone) (i : Nat) : trn z i = (z.transitions.toList[i]?).getD default := by
  unfold trn
  rw [Array.getD_eq_getD_getElem?, Array.getElem?_toList]

theorem typ_toList (z : Zone) (i : Nat) : typ z i = (z.types.toList[i]?).getD default := by
  unfold typ
  rw [Array.getD_eq_getD_getElem?, Array.getElem?_toList]

theorem map_mkTr (z : Zone) (f : Transition → β) (hf : ∀ i, f (mkTr z i) = f (trn z i)) :
    ((List.range z.transitions.size).map (mkTr z)).map f = z.transitions.toList.map f := by
  apply List.ext_getElem
  · simp
  · intro i h1 h2
    have hi : i < z.transitions.toList.length := by simpa using h1
    simp only [List.getElem_map, List.getElem_range, hf]
    rw [trn_toList, List.getElem?_eq_getElem hi]
    rfl

/-- `z'` is `z` after `fillCivil` and `fillTypes` -/
structure Filled (z z' : Zone) : Prop where
  trs : z'.transitions.toList = (List.range z.transitions.size).map (mkTr z)
  tys : ∃ abbrs, z'.types.toList = z.types.toList.map (fT abbrs)
  dflt : z'.defaultType = z.defaultType
  ext : z'.extended = z.extended
  sorted : SortedUpTo z z.transitions.size

theorem filled_of (z z3 : Zone) (h : (fillCivil z).val = some z3) : Filled z (fillTypes z3).val := by
  obtain ⟨hs, rfl⟩ := (fillCivil_val_iff z z3).1 h
  rw [fillTypes_val]
  exact ⟨List.toList_toArray, ⟨z.abbreviations, rfl⟩, rfl, rfl, hs⟩

namespace Filled
variable {z z' : Zone} (F : Filled z z')
include F

theorem size_eq : z'.transitions.size = z.transitions.size := by
  have := congrArg List.length F.trs
  simpa using this

theorem tsize_eq : z'.types.size = z.types.size := by
  obtain ⟨abbrs, h⟩ := F.tys
  have := congrArg List.length h
  simpa using this

theorem trn_eq (i : Nat) (hi : i < z.transitions.size) : trn z' i = mkTr z i := by
  rw [trn_toList, F.trs, List.getElem?_map, List.getElem?_range hi]; rfl

theorem time_eq (i : Nat) (hi : i < z.transitions.size) : timeOf z' i = timeOf z i := by
  unfold timeOf; rw [F.trn_eq i hi]; rfl

theorem tidx_eq (i : Nat) (hi : i < z.transitions.size) : (trn z' i).typeIndex = (trn z i).typeIndex := by
  rw [F.trn_eq i hi]; rfl

theorem typ_eq (k : Nat) (hk : k < z.types.size) : ∃ abbrs, typ z' k = fT abbrs (typ z k) := by
  obtain ⟨abbrs, h⟩ := F.tys
  refine ⟨abbrs, ?_⟩
  have hk' : k < z.types.toList.length := by simpa using hk
  rw [typ_toList, typ_toList, h, List.getElem?_map, List.getElem?_eq_getElem hk']; rfl

theorem off_eq (k : Nat) : (typ z' k).utcOffset = (typ z k).utcOffset := by
  by_cases hk : k < z.types.size
  · obtain ⟨abbrs, h⟩ := F.typ_eq k hk
    rw [h]; rfl
  · have h1 : z.types.toList[k]? = none := by
      rw [List.getElem?_eq_none_iff]; simpa using Nat.le_of_not_lt hk
    have h2 : z'.types.toList[k]? = none := by
      rw [List.getElem?_eq_none_iff]
      have := F.tsize_eq
      have : z'.types.toList.length = z.types.size := by simpa using this
      omega
    rw [typ_toList, typ_toList, h1, h2]

theorem prevType_eq (i : Nat) (hi : i < z.transitions.size) : prevType z' i = prevType z i := by
  unfold prevType
  split
  · exact F.dflt
  · exact F.tidx_eq (i - 1) (by omega)

theorem times_eq : timesOf z'.transitions = timesOf z.transitions := by
  unfold timesOf
  rw [F.trs]
  exact map_mkTr z _ fun _ => rfl

theorem offOf_eq (i : Nat) (hi : i < z.transitions.size) : offOf z' i = offOf z i := by
  unfold offOf; rw [F.off_eq, F.tidx_eq i hi]

theorem offBefore_eq (i : Nat) (hi : i < z.transitions.size) : offBefore z' i = offBefore z i := by
  unfold offBefore; rw [F.off_eq, F.prevType_eq i hi]

theorem cols : CivilCols z' := by
  refine ⟨fun i hi => ?_, fun i hi => ?_, fun k hk => ?_, fun k hk => ?_⟩
  · rw [F.size_eq] at hi
    rw [F.offOf_eq i hi, F.time_eq i hi, F.trn_eq i hi]
    exact mkTr_civil z i
  · rw [F.size_eq] at hi
    rw [F.offBefore_eq i hi, F.time_eq i hi, F.trn_eq i hi]
    exact mkTr_prev z i
  · rw [F.tsize_eq] at hk
    obtain ⟨abbrs, h⟩ := F.typ_eq k hk
    rw [h]
    exact (fT_cols abbrs _).1
  · rw [F.tsize_eq] at hk
    obtain ⟨abbrs, h⟩ := F.typ_eq k hk
    rw [h]
    exact (fT_cols abbrs _).2

theorem civilSorted : CivilSorted z' := by
  refine pairs_of_consecutive (R := fun i j => Civil.lt (trn z' i).civilSec (trn z' j).civilSec = true) _
    (fun i j k a b => Tb.lt_trans a b) ?_
  intro i hi
  rw [F.size_eq] at hi
  rw [F.trn_eq i (by omega), F.trn_eq (i + 1) hi]
  exact F.sorted i hi

end Filled

end Cctz.Lt
