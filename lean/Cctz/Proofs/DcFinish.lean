/-
  C01Decode helper proofs: the tail of `Load` (`loadFinish`: first sentinel,
  `ExtendTransitions`, second sentinel, the civil columns) written as a composition of values, and
  what it keeps of the decoded tables: the (time, type) pairs, the type records and the
  abbreviations stay as a prefix, the footer and the default type stay.
-/
import Cctz.Proofs.DcDefault
import Cctz.Proofs.LtLoad

namespace Cctz.Dc
open Cctz Cctz.Tz Cctz.Spec Cctz.Lt

/-! ### `loadFinish` as a composition -/

def withFirst (trans : Array Transition) (defaultType : Nat) : Array Transition :=
  if trans.isEmpty ∨ ((trans[0]?.map (·.unixTime)).getD 0 : Int) ≥ 0 then
    #[({ unixTime := Gen.sentinelFirst, typeIndex := defaultType } : Transition)] ++ trans
  else trans

/-- the table `Load` hands to `ExtendTransitions` -/
def zone0 (trans : Array Transition) (types : Array TransitionType) (defaultType : Nat)
    (abbrs spec : Bytes) : Zone :=
  { transitions := withFirst trans defaultType, types := types, defaultType := defaultType,
    abbreviations := abbrs, futureSpec := spec }

end Cctz.Dc

namespace Cctz.C01Decode
open Cctz Cctz.Tz Cctz.Spec

/-- the second-half sentinel `Load` appends after `ExtendTransitions` when the last time is negative -/
def addSecondSentinel (z : Zone) : Zone :=
  let last := (getTrans z (z.transitions.size - 1)).val
  if last.unixTime < 0 then
    { z with transitions := z.transitions.push { unixTime := Gen.sentinelSecond, typeIndex := last.typeIndex } }
  else z

/-- the rest of `Load` on that table: the footer rule (`ExtendTransitions`), the second sentinel, the
civil-second columns with their order check (`fillCivil`) and the per-type columns (`fillTypes`) -/
def finish (z0 : Zone) : LoadResult :=
  match (extendTransitions z0).val with
  | none => .fail
  | some z1 =>
    match (fillCivil (addSecondSentinel z1)).val with
    | none => .fail
    | some z3 => .ok (fillTypes z3).val

end Cctz.C01Decode

namespace Cctz.Dc
open Cctz Cctz.Tz Cctz.Spec Cctz.Lt Cctz.C01Decode

theorem loadFinish_val (trans : Array Transition) (types : Array TransitionType) (defaultType : Nat)
    (abbrs spec : Bytes) :
    (Ld.loadFinish trans types defaultType abbrs spec).val =
      finish (zone0 trans types defaultType abbrs spec) := by
  unfold Ld.loadFinish finish
  simp only [Ck.bind_val]
  show (match (extendTransitions (zone0 trans types defaultType abbrs spec)).val with
    | none => _ | some z => _ : Ck LoadResult).val = _
  cases (extendTransitions (zone0 trans types defaultType abbrs spec)).val with
  | none => rfl
  | some z1 =>
    dsimp only [Ck.bind_val]
    show (match (fillCivil (addSecondSentinel z1)).val with | none => _ | some z => _ : Ck LoadResult).val = _
    cases (fillCivil (addSecondSentinel z1)).val with
    | none => rfl
    | some z3 => rfl

/-! ### what the tail keeps -/

/-- the (time, type index) pairs of a table -/
def pairsOf (a : Array Transition) : List (Int × Nat) := a.toList.map fun t => (t.unixTime, t.typeIndex)
/-- the (utoff, isdst, abbreviation index) records of a type table -/
def recsOf (a : Array TransitionType) : List (Int × Bool × Nat) := a.toList.map projT

theorem pairsOf_push (a : Array Transition) (t : Transition) :
    pairsOf (a.push t) = pairsOf a ++ [(t.unixTime, t.typeIndex)] := by
  simp [pairsOf]

/-- `z'` extends `z`: tables and abbreviations only grow at the end, footer and default type stay -/
structure Keep (z z' : Zone) : Prop where
  trans : pairsOf z.transitions <+: pairsOf z'.transitions
  types : recsOf z.types <+: recsOf z'.types
  abbrs : z.abbreviations <+: z'.abbreviations
  spec : z'.futureSpec = z.futureSpec
  dflt : z'.defaultType = z.defaultType

theorem Keep.trans' {a b c : Zone} (h1 : Keep a b) (h2 : Keep b c) : Keep a c :=
  ⟨h1.trans.trans h2.trans, h1.types.trans h2.types, h1.abbrs.trans h2.abbrs,
   h2.spec.trans h1.spec, h2.dflt.trans h1.dflt⟩

theorem extends_keep {z z' : Zone} (h : Extends false z z') : Keep z z' := by
  obtain ⟨extra, he, _⟩ := h.trans
  refine ⟨?_, ?_, h.abbrs, h.spec, h.dflt⟩
  · unfold pairsOf
    rw [he, List.map_append]
    exact List.prefix_append _ _
  · exact h.types.map _

/-! ### the second sentinel and the civil columns -/

theorem addSecondSentinel_keep (z : Zone) : Keep z (addSecondSentinel z) := by
  unfold addSecondSentinel
  dsimp only
  split
  · refine ⟨?_, List.prefix_refl _, List.prefix_refl _, rfl, rfl⟩
    show pairsOf z.transitions <+: pairsOf (z.transitions.push _)
    rw [pairsOf_push]
    exact List.prefix_append _ _
  · exact ⟨List.prefix_refl _, List.prefix_refl _, List.prefix_refl _, rfl, rfl⟩

theorem fillCivil_keep (z z' : Zone) (h : (fillCivil z).val = some z') : Keep z z' := by
  obtain ⟨_, rfl⟩ := (fillCivil_val_iff z z').1 h
  refine ⟨?_, List.prefix_refl _, List.prefix_refl _, rfl, rfl⟩
  unfold pairsOf
  dsimp only
  rw [List.toList_toArray, map_mkTr z _ fun _ => rfl]
  exact List.prefix_refl _

theorem fillTypes_keep (z : Zone) : Keep z (fillTypes z).val := by
  rw [fillTypes_val]
  refine ⟨List.prefix_refl _, ?_, List.prefix_refl _, rfl, rfl⟩
  show recsOf z.types <+: recsOf (z.types.toList.map (fT z.abbreviations)).toArray
  have : recsOf (z.types.toList.map (fT z.abbreviations)).toArray = recsOf z.types := by
    unfold recsOf
    rw [List.map_map]
    rfl
  rw [this]
  exact List.prefix_refl _

/-- what a successful tail of `Load` returns, relative to the table handed to `ExtendTransitions` -/
theorem finish_keep (z0 z : Zone) (h : finish z0 = .ok z) : Keep z0 z := by
  unfold finish at h
  split at h
  · cases h
  rename_i z1 h1
  split at h
  · cases h
  rename_i z3 h3
  cases h
  have k1 : Keep z0 z1 := extends_keep (G_false (extendTransitions_G false z0) z1 h1)
  exact ((k1.trans' (addSecondSentinel_keep z1)).trans' (fillCivil_keep _ _ h3)).trans' (fillTypes_keep z3)

end Cctz.Dc
