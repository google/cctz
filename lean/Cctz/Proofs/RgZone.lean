/-
  C01 gluing: hand-made tables.  `mkZone types d es` is the extended table with the given
  (offset, isDst) types, default type `d` and (time, type) entries `es`, its civil columns filled in
  the way `Load` does; it has `CivilCols` by construction and `TableWF` when `es` is sorted.
-/
import Cctz.Model.Tz
import Cctz.Spec.TableSem
import Cctz.Proofs.TableLookup
import Cctz.Proofs.RgTable

namespace Cctz.Rg
open Cctz Cctz.Tz Cctz.Spec

def ttBase (off : Int) (dst : Bool) : TransitionType := { utcOffset := off, isDst := dst, abbrIndex := 0 }

def mkType (p : Int × Bool) : TransitionType :=
  { ttBase p.1 p.2 with
    civilMax := (localTimeTT [] i64max (ttBase p.1 p.2)).val.cs,
    civilMin := (localTimeTT [] i64min (ttBase p.1 p.2)).val.cs }

/-- offset of type `i` of a type list (0 beyond it, as `typ` of a zone gives) -/
def offT (types : List (Int × Bool)) (i : Nat) : Int := (types.getD i (0, false)).1

/-- a table entry with its civil columns; `off` is the offset of its type, `offPrev` of the type
in force before it -/
def mkTrans (t : Int) (ti : Nat) (off offPrev : Int) : Transition :=
  { unixTime := t, typeIndex := ti,
    civilSec := (localTimeTT [] t (ttBase off false)).val.cs,
    prevCivilSec := (localTimeTT [] (t - 1) (ttBase offPrev false)).val.cs }

/-- entries with civil columns; `prev` is the type in force before the first one -/
def fill (types : List (Int × Bool)) : Nat → List (Int × Nat) → List Transition
  | _, [] => []
  | prev, p :: r => mkTrans p.1 p.2 (offT types p.2) (offT types prev) :: fill types p.2 r

def mkZone (types : List (Int × Bool)) (d : Nat) (es : List (Int × Nat)) : Zone :=
  { transitions := (fill types d es).toArray, types := (types.map mkType).toArray,
    defaultType := d, extended := true }

theorem fill_length (types : List (Int × Bool)) : ∀ (prev : Nat) (es : List (Int × Nat)),
    (fill types prev es).length = es.length
  | _, [] => rfl
  | _, p :: r => by simp [fill, fill_length types p.2 r]

theorem fill_keys (types : List (Int × Bool)) : ∀ (prev : Nat) (es : List (Int × Nat)),
    (fill types prev es).map key = es
  | _, [] => rfl
  | _, p :: r => by
    simp only [fill, List.map_cons, fill_keys types p.2 r]
    rfl

/-- type in force before entry `i` of `es` -/
def prevOf (d : Nat) (es : List (Int × Nat)) (i : Nat) : Nat :=
  if i = 0 then d else (es.getD (i - 1) (0, 0)).2

theorem fill_get (types : List (Int × Bool)) : ∀ (prev : Nat) (es : List (Int × Nat)) (i : Nat),
    i < es.length →
    (fill types prev es).getD i default =
      mkTrans (es.getD i (0, 0)).1 (es.getD i (0, 0)).2 (offT types (es.getD i (0, 0)).2)
        (offT types (prevOf prev es i))
  | _, [], i, h => by simp at h
  | prev, p :: r, 0, _ => by simp [fill, prevOf]
  | prev, p :: r, i + 1, h => by
    have ih := fill_get types p.2 r i (by simpa using h)
    simp only [fill, List.getD_cons_succ] at ih ⊢
    rw [ih]
    congr 2
    unfold prevOf
    cases i with
    | zero => simp
    | succ i => simp

section
variable (types : List (Int × Bool)) (d : Nat) (es : List (Int × Nat))

theorem size_mkZone :
    (mkZone types d es).transitions.size = es.length := by
  simp [mkZone, fill_length]

theorem trn_mkZone (i : Nat)
    (hi : i < es.length) :
    trn (mkZone types d es) i =
      mkTrans (es.getD i (0, 0)).1 (es.getD i (0, 0)).2 (offT types (es.getD i (0, 0)).2)
        (offT types (prevOf d es i)) := by
  rw [← fill_get types d es i hi]
  unfold trn mkZone
  simp [Array.getD_eq_getD_getElem?, List.getD_eq_getElem?_getD]

theorem typ_mkZone (k : Nat)
    (hk : k < types.length) :
    typ (mkZone types d es) k = mkType (types.getD k (0, false)) := by
  unfold typ mkZone
  simp [Array.getD_eq_getD_getElem?, List.getD_eq_getElem?_getD, hk]

theorem off_mkZone (k : Nat) :
    (typ (mkZone types d es) k).utcOffset = offT types k := by
  by_cases hk : k < types.length
  · rw [typ_mkZone types d es k hk]; rfl
  · unfold typ mkZone offT
    simp [Array.getD_eq_getD_getElem?, List.getD_eq_getElem?_getD, hk]
    rfl

theorem dst_mkZone (k : Nat)
    (hk : k < types.length) :
    (typ (mkZone types d es) k).isDst = (types.getD k (0, false)).2 := by
  rw [typ_mkZone types d es k hk]; rfl

theorem cols_mkZone :
    CivilCols (mkZone types d es) := by
  refine ⟨?_, ?_, ?_, ?_⟩
  · intro i hi
    rw [size_mkZone] at hi
    unfold timeOf offOf
    rw [off_mkZone, trn_mkZone types d es i hi]
    have := Tl.localTimeTT_spec [] (es.getD i (0, 0)).1 (ttBase (offT types (es.getD i (0, 0)).2) false)
    exact ⟨this.1, this.2.1⟩
  · intro i hi
    rw [size_mkZone] at hi
    have hp : prevType (mkZone types d es) i = prevOf d es i := by
      unfold prevType prevOf
      by_cases h0 : i = 0
      · simp [h0, mkZone]
      · simp only [h0, if_false]
        rw [trn_mkZone types d es (i - 1) (by omega)]
        rfl
    unfold timeOf offBefore
    rw [hp, off_mkZone, trn_mkZone types d es i hi]
    have := Tl.localTimeTT_spec [] ((es.getD i (0, 0)).1 - 1) (ttBase (offT types (prevOf d es i)) false)
    refine ⟨this.1, this.2.1.trans ?_⟩
    show (es.getD i (0, 0)).1 - 1 + offT types (prevOf d es i) =
      (es.getD i (0, 0)).1 + offT types (prevOf d es i) - 1
    omega
  · intro k hk
    have hk' : k < types.length := by simpa [mkZone] using hk
    rw [typ_mkZone types d es k hk']
    have := Tl.localTimeTT_spec [] i64max (ttBase (types.getD k (0, false)).1 (types.getD k (0, false)).2)
    exact ⟨this.1, this.2.1⟩
  · intro k hk
    have hk' : k < types.length := by simpa [mkZone] using hk
    rw [typ_mkZone types d es k hk']
    have := Tl.localTimeTT_spec [] i64min (ttBase (types.getD k (0, false)).1 (types.getD k (0, false)).2)
    exact ⟨this.1, this.2.1⟩

theorem wf_mkZone
    (hne : es ≠ []) (hs : (es.map (·.1)).Pairwise (· < ·))
    (hty : ∀ p ∈ es, p.2 < types.length) (hd : d < types.length) : TableWF (mkZone types d es) := by
  have hlen : 0 < es.length := List.length_pos_iff.2 hne
  refine ⟨by rw [size_mkZone]; exact hlen, ?_, ?_, by simpa [mkZone] using hd⟩
  · intro i j hij hj
    rw [size_mkZone] at hj
    rw [trn_mkZone types d es i (by omega), trn_mkZone types d es j hj]
    show (es.getD i (0, 0)).1 < (es.getD j (0, 0)).1
    have := (List.pairwise_iff_getElem.1 hs) i j (by simp; omega) (by simpa using hj) hij
    simpa [List.getD_eq_getElem?_getD, List.getElem?_eq_getElem, hj, show i < es.length by omega] using this
  · intro i hi
    rw [size_mkZone] at hi
    rw [trn_mkZone types d es i hi]
    show (es.getD i (0, 0)).2 < (mkZone types d es).types.size
    have : (es.getD i (0, 0)) ∈ es := by
      rw [List.getD_eq_getElem?_getD, List.getElem?_eq_getElem hi]
      exact List.getElem_mem hi
    simpa [mkZone] using hty _ this

theorem toList_mkZone :
    (mkZone types d es).transitions.toList = fill types d es := by
  simp [mkZone]

end

theorem fill_append (types : List (Int × Bool)) : ∀ (prev : Nat) (a b : List (Int × Nat)),
    fill types prev (a ++ b) =
      fill types prev a ++ fill types ((a.getLast?.map (·.2)).getD prev) b
  | _, [], _ => rfl
  | prev, [p], b => by simp [fill]
  | prev, p :: q :: r, b => by
    have ih := fill_append types p.2 (q :: r) b
    simp only [List.cons_append, fill] at ih ⊢
    rw [ih, List.getLast?_cons_cons]
    rw [List.getLast?_eq_some_getLast (List.cons_ne_nil q r)]
    rfl

/-! ### an extended table: recorded entries followed by the generated part of a chain -/

/-- entries of the extended table for recorded entries `esRec` and instant functions `s e` -/
def extEntries (esRec : List (Int × Nat)) (s e : Int → Int) (dstTi stdTi : Nat) (L y0 : Int) :
    List (Int × Nat) := esRec ++ (genList s e dstTi stdTi L y0).map key

theorem wf_mkZone_ext (types : List (Int × Bool)) (d : Nat) (esRec : List (Int × Nat))
    (s e : Int → Int) (dstTi stdTi : Nat) (L y0 : Int) (c : Chain s e)
    (hne : esRec ≠ []) (hs : (esRec.map (·.1)).Pairwise (· < ·)) (hL : ∀ p ∈ esRec, p.1 ≤ L)
    (hty : ∀ p ∈ esRec, p.2 < types.length) (hd : d < types.length)
    (hdst : dstTi < types.length) (hstd : stdTi < types.length) :
    TableWF (mkZone types d (extEntries esRec s e dstTi stdTi L y0)) := by
  apply wf_mkZone
  · unfold extEntries; simp [hne]
  · unfold extEntries
    rw [List.map_append, List.pairwise_append]
    refine ⟨hs, ?_, ?_⟩
    · rw [List.map_map]
      exact (List.pairwise_map (f := (fun p : Int × Nat => p.1) ∘ key) (R := (· < ·))).2
        (genList_pairwise c dstTi stdTi L y0)
    · intro a ha b hb
      obtain ⟨p, hp, rfl⟩ := List.mem_map.1 ha
      rw [List.map_map] at hb
      obtain ⟨x, hx, rfl⟩ := List.mem_map.1 hb
      have h1 := hL p hp
      obtain ⟨_, _, _, _, _, h2, _⟩ := gen_kind (gen := genList s e dstTi stdTi L y0) rfl hx
      show p.1 < x.unixTime
      omega
  · intro p hp
    unfold extEntries at hp
    rcases List.mem_append.1 hp with h | h
    · exact hty p h
    · obtain ⟨x, hx, rfl⟩ := List.mem_map.1 h
      obtain ⟨_, kind, _, _, _, _, hti⟩ := gen_kind (gen := genList s e dstTi stdTi L y0) rfl hx
      show x.typeIndex < _
      rw [hti]; cases kind
      · exact hstd
      · exact hdst
  · exact hd

/-- the table is the recorded entries followed by entries that agree with the generated part in
the time and type columns -/
theorem keys_mkZone_ext (types : List (Int × Bool)) (d : Nat) (esRec : List (Int × Nat))
    (s e : Int → Int) (dstTi stdTi : Nat) (L y0 : Int) :
    ∃ gen, (mkZone types d (extEntries esRec s e dstTi stdTi L y0)).transitions.toList =
        fill types d esRec ++ gen ∧
      gen.map key = (genList s e dstTi stdTi L y0).map key := by
  refine ⟨fill types ((esRec.getLast?.map (·.2)).getD d) ((genList s e dstTi stdTi L y0).map key), ?_, ?_⟩
  · rw [toList_mkZone]; unfold extEntries; rw [fill_append]
  · rw [fill_keys]

end Cctz.Rg
