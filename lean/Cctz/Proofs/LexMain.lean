/-
  C08Lex helper proofs: what one iteration of `formatLoop` does at a lone '%' against
  `Lex.conv`/`Lex.renderConv`: the model's dispatch finds the specification's conversion, renders
  it as documented and raises no flag.
-/
import Cctz.Proofs.LexRender
import Cctz.Proofs.LexWidth

namespace Cctz.Lx
open Cctz Cctz.Bytes Cctz.Format Cctz.Spec Cctz.Spec.Lex Cctz.Fm Cctz.Wd

/-- the strftime run that is open when the cursor is at `c` with `p` pending -/
def runOf (fmt : Array UInt8) (p c : Nat) : Option Bytes := if p = c then none else some (slice fmt p c)

/-- what the specification emits from a lone '%' on (the odd percent sign before `cur2`, not at
the end of the string) -/
def lonePctSegs (fmt : Array UInt8) (al : Tz.AbsLookup) (t fs : Int) (pending2 cur2 : Nat) : List Seg :=
  match conv (fmt.toList.drop cur2) with
  | some (c, r) => flushTo fmt pending2 (cur2 - 1) [] ++ [.lit (renderConv c al t fs)] ++ specSegs al t fs none r
  | none => specSegs al t fs (some (slice fmt pending2 cur2)) (fmt.toList.drop cur2)

section
variable (sf : Strftime) (fmt : Array UInt8) (al : Tz.AbsLookup) (tm : Tm) (t fs : Int)

/-- What is shown of every (partial) run of the loop: no flag, and the segments render as `r`.  The two
are carried through the induction together, since each branch of an iteration yields both from the
same case analysis. -/
def Good (x : Ck (List Seg)) (r : Bytes) : Prop := x.ok ∧ render sf tm x.val = r

/-- induction hypothesis: from a state at or beyond `lo` the loop raises no flag and renders what the
specification says -/
def SpecFrom (fuel lo : Nat) : Prop :=
  ∀ st' : St, lo ≤ st'.cur → st'.pending ≤ st'.cur → st'.cur ≤ fmt.size →
    Good sf tm (formatLoop fmt al tm t fs fuel st')
      (render sf tm st'.out ++ render sf tm (specSegs al t fs (runOf fmt st'.pending st'.cur) (fmt.toList.drop st'.cur)))

theorem flushTo_out (p u : Nat) (o : List Seg) : flushTo fmt p u o = o ++ flushTo fmt p u [] := by
  unfold flushTo; split <;> simp

theorem good_ite (c : Prop) [Decidable c] (a b : Ck (List Seg)) (rhs : Bytes)
    (ha : c → Good sf tm a rhs) (hb : ¬ c → Good sf tm b rhs) :
    Good sf tm (if c then a else b) rhs := by
  split
  · exact ha ‹_›
  · exact hb ‹_›

variable {sf fmt al tm t fs}

theorem good_bind {α} {x : Ck α} {f : α → Ck (List Seg)} {rhs : Bytes} (hx : x.ok)
    (h : Good sf tm (f x.val) rhs) : Good sf tm (x >>= f) rhs :=
  ⟨(Ck.bind_ok _ _).2 ⟨hx, h.1⟩, h.2⟩

theorem good_offset (E : Env al tm t fs) (mode : Bytes) {k : Bytes → Ck (List Seg)} {rhs : Bytes}
    (h : Good sf tm (k (formatOffset al.offset mode).val) rhs) :
    Good sf tm (formatOffset al.offset mode >>= fun b => scratch b >>= k) rhs := by
  obtain ⟨p1, p2⟩ := offset_piece al.offset mode E.off1 E.off2
  refine good_bind p1 (good_bind p2 ?_)
  rwa [scratch_val]

/-- the model found the conversion `c`, `n` bytes long, and rendered it as the specification does -/
theorem conv_closes_run {fuel : Nat} {out2 : List Seg} {pending2 cur2 : Nat}
    (ih : SpecFrom sf fmt al tm t fs fuel cur2) (n : Nat) (hle : cur2 + n ≤ fmt.size)
    (c : Conv) (hconv : conv (fmt.toList.drop cur2) = some (c, fmt.toList.drop (cur2 + n)))
    (b : Bytes) (hb : b = renderConv c al t fs) {u e : Nat} (hu : u = cur2 - 1 := by omega)
    (he : e = cur2 + n := by omega) :
    Good sf tm (formatLoop fmt al tm t fs fuel
      { out := flushTo fmt pending2 u out2 ++ [.lit b], pending := e, cur := e })
    (render sf tm out2 ++ render sf tm (lonePctSegs fmt al t fs pending2 cur2)) := by
  subst hu he hb
  obtain ⟨hok, hv⟩ := ih ⟨flushTo fmt pending2 (cur2 - 1) out2 ++ [.lit (renderConv c al t fs)], cur2 + n, cur2 + n⟩
    (Nat.le_add_right _ _) (Nat.le_refl _) hle
  refine ⟨hok, ?_⟩
  rw [hv]
  dsimp only
  unfold lonePctSegs
  rw [hconv]
  dsimp only
  rw [flushTo_out, show runOf fmt (cur2 + n) (cur2 + n) = none by simp [runOf]]
  simp only [render_append, List.append_assoc]

theorem run_goes_on {fuel : Nat} {out2 : List Seg} {pending2 cur2 : Nat}
    (ih : SpecFrom sf fmt al tm t fs fuel cur2) (hp : pending2 < cur2) (hle : cur2 ≤ fmt.size)
    (hconv : conv (fmt.toList.drop cur2) = none) :
    Good sf tm (formatLoop fmt al tm t fs fuel { out := out2, pending := pending2, cur := cur2 })
    (render sf tm out2 ++ render sf tm (lonePctSegs fmt al t fs pending2 cur2)) := by
  obtain ⟨hok, hv⟩ := ih ⟨out2, pending2, cur2⟩ (Nat.le_refl _) (Nat.le_of_lt hp) hle
  refine ⟨hok, ?_⟩
  rw [hv]
  dsimp only
  unfold lonePctSegs
  rw [hconv]
  dsimp only
  rw [show runOf fmt pending2 cur2 = some (slice fmt pending2 cur2) by simp [runOf]; omega]

/-- no conversion at `cur2`; the cursor moves over one byte, which the open run absorbs -/
theorem run_absorbs_byte {fuel : Nat} {out2 : List Seg} {pending2 cur2 : Nat}
    (ih : SpecFrom sf fmt al tm t fs fuel cur2) (hp : pending2 < cur2) (hlt : cur2 < fmt.size)
    (h37 : chAt fmt cur2 ≠ 37) (hconv : conv (fmt.toList.drop cur2) = none) (e : Nat) (he : e = cur2 + 1) :
    Good sf tm (formatLoop fmt al tm t fs fuel { out := out2, pending := pending2, cur := e })
    (render sf tm out2 ++ render sf tm (lonePctSegs fmt al t fs pending2 cur2)) := by
  subst he
  obtain ⟨hok, hv⟩ := ih ⟨out2, pending2, cur2 + 1⟩ (Nat.le_succ _) (Nat.le_succ_of_le (Nat.le_of_lt hp)) hlt
  refine ⟨hok, ?_⟩
  rw [hv]
  dsimp only
  unfold lonePctSegs
  rw [hconv]
  dsimp only
  rw [show runOf fmt pending2 (cur2 + 1) = some (slice fmt pending2 (cur2 + 1)) by simp [runOf]; omega,
    drop_cons fmt cur2 hlt, specSegs_absorb _ _ _ _ _ _ h37, slice_split fmt pending2 cur2 (cur2 + 1) (by omega) (by omega),
    slice_one fmt cur2 hlt]

theorem conv_E_nil : conv [69] = none := rfl

theorem eTail_val (E : Env al tm t fs) {fuel : Nat} {out2 : List Seg} {pending2 cur2 : Nat}
    (ih : SpecFrom sf fmt al tm t fs fuel cur2) (hp : pending2 < cur2) (hlt : cur2 < fmt.size)
    (h37 : chAt fmt cur2 ≠ 37)
    (hnc : chAt fmt cur2 ≠ 69 → conv (fmt.toList.drop cur2) = none) :
    Good sf tm (eTail fmt al tm t fs fuel out2 pending2 cur2)
      (render sf tm out2 ++ render sf tm (lonePctSegs fmt al t fs pending2 cur2)) := by
  obtain ⟨_, ho1, ho2, ho3⟩ := formatOffset_val _ E.off1 E.off2
  unfold eTail
  dsimp only
  refine good_ite _ _ _ _ _ _ (fun hc => ?_) (fun hc => ?_)
  · by_cases h69 : chAt fmt cur2 ≠ 69
    · rw [if_pos h69]; exact run_goes_on ih hp (Nat.le_of_lt hlt) (hnc h69)
    · rw [if_neg h69]
      have hfin := hc.resolve_left h69
      have h69' : chAt fmt cur2 = 69 := Classical.not_not.1 h69
      have hd : fmt.toList.drop cur2 = [69] := by
        rw [drop_cons fmt cur2 hlt, (drop_eq_nil_iff fmt _ (by omega)).2 hfin, h69']
      exact run_absorbs_byte ih hp hlt h37 (by rw [hd]; rfl) _ rfl
  have h69 : chAt fmt cur2 = 69 := Classical.not_not.1 (fun h => hc (Or.inl h))
  have hc3 : cur2 + 1 < fmt.size := by
    have : cur2 + 1 ≠ fmt.size := fun h' => hc (Or.inr h')
    omega
  have hd2 : fmt.toList.drop cur2 = 69 :: fmt.toList.drop (cur2 + 1) := by
    rw [drop_cons fmt cur2 hlt, h69]
  have hd3 : fmt.toList.drop (cur2 + 1) = chAt fmt (cur2 + 1) :: fmt.toList.drop (cur2 + 2) :=
    drop_cons fmt (cur2 + 1) hc3
  have n : ∀ i, chAt fmt i ≠ 0 → i ≠ fmt.size := fun i h => Nat.ne_of_lt (chAt_ne_zero_lt fmt i h)
  have hd4 : cur2 + 2 ≠ fmt.size → fmt.toList.drop (cur2 + 2) = chAt fmt (cur2 + 2) :: fmt.toList.drop (cur2 + 3) :=
    fun h => drop_cons fmt (cur2 + 2) (by omega)
  refine good_ite _ _ _ _ _ _ (fun h84 => ?_) (fun h84 => ?_)
  · exact conv_closes_run ih 2 (by omega) .eT (by rw [hd2, hd3, h84]; rfl) [84] rfl
  refine good_ite _ _ _ _ _ _ (fun h122 => ?_) (fun h122 => ?_)
  · refine good_offset E _ ?_
    exact conv_closes_run ih 2 (by omega) .eZ (by rw [hd2, hd3, h122]; rfl) _ ho1
  refine good_ite _ _ _ _ _ _ (fun hsz => ?_) (fun hsz => ?_)
  · obtain ⟨h42, hne, hz122⟩ := hsz
    refine good_offset E _ ?_
    exact conv_closes_run ih 3 (by omega) .eStarZ
      (by rw [hd2, hd3, hd4 hne, h42, hz122]; rfl) _ ho2
  refine good_ite _ _ _ _ _ _ (fun hss => ?_) (fun hss => ?_)
  · obtain ⟨h42, hne, hsf⟩ := hss
    obtain ⟨p1, p2, p3⟩ := star_piece E (chAt fmt (cur2 + 1 + 1) = 83)
    refine good_bind p1 (good_bind p2 ?_)
    refine conv_closes_run ih 3 (by omega) _ ?_ _ p3
    rw [hd2, hd3, hd4 hne, h42]
    by_cases h83 : chAt fmt (cur2 + 1 + 1) = 83
    · rw [if_pos h83, h83]; rfl
    · rw [if_neg h83, hsf.resolve_left h83]; rfl
  refine good_ite _ _ _ _ _ _ (fun h4y => ?_) (fun h4y => ?_)
  · obtain ⟨h52, hne, h89⟩ := h4y
    obtain ⟨p1, p2⟩ := format64_piece 4 al.cs.y E.year (by decide)
    refine good_bind p1 ?_
    exact conv_closes_run ih 3 (by omega) .e4Y
      (by rw [hd2, hd3, hd4 hne, h52, h89]; rfl) _ (p2.trans (format64_four _))
  -- from here on the conversion is `%E<digits>` or nothing
  have hhd : (fmt.toList.drop (cur2 + 1)).headD 0 = chAt fmt (cur2 + 1) := (chAt_eq fmt _).symm
  have hhd2 : (fmt.toList.drop (cur2 + 1)).tail.headD 0 = chAt fmt (cur2 + 2) := by
    rw [List.tail_drop]; exact (chAt_eq fmt _).symm
  have hE : conv (fmt.toList.drop cur2) = convDig (fmt.toList.drop (cur2 + 1)) := by
    rw [hd2]
    apply conv_E
    · rw [hhd]; exact h84
    · rw [hhd]; exact h122
    · rw [hhd, hhd2]
      rintro ⟨a, b | b⟩
      · exact hsz ⟨a, n _ (by rw [b]; decide), b⟩
      · exact hss ⟨a, n _ (by rcases b with b | b <;> rw [b] <;> decide), b⟩
    · rw [hhd, hhd2]
      exact fun ⟨a, b⟩ => h4y ⟨a, n _ (by rw [b]; decide), b⟩
  refine good_ite _ _ _ _ _ _ (fun hdig => ?_) (fun hdig => ?_)
  · rw [parseWidth_spec fmt (cur2 + 1) (by omega)]
    generalize hds : (fmt.toList.drop (cur2 + 1)).takeWhile isDigit = ds
    by_cases hw : ds ≠ [] ∧ digitsVal ds ≤ 1024
    · rw [if_pos hw]
      dsimp only
      have hdrop : fmt.toList.drop (cur2 + 1 + ds.length) = (fmt.toList.drop (cur2 + 1)).dropWhile isDigit := by
        rw [← hds, ← List.drop_drop, drop_length_takeWhile]
      generalize hnp : cur2 + 1 + ds.length = np at hdrop ⊢
      refine good_ite _ _ _ _ _ _ (fun hx => ?_) (fun hx => ?_)
      · have hnpl : np < fmt.size :=
          chAt_ne_zero_lt fmt np (by rcases hx with h | h <;> rw [h] <;> decide)
        have hdw : (fmt.toList.drop (cur2 + 1)).dropWhile isDigit = chAt fmt np :: fmt.toList.drop (np + 1) := by
          rw [← hdrop, drop_cons fmt np hnpl]
        obtain ⟨p1, p2, p3, p4⟩ := dig_piece E (digitsVal ds) (chAt fmt np) _ rfl
        refine good_bind p1 (good_bind p2 (good_bind p3 ?_))
        refine conv_closes_run ih (np + 1 - cur2) (by omega) _ ?_ _ ((scratch_val _).trans p4)
        rw [hE, show cur2 + (np + 1 - cur2) = np + 1 by omega]
        by_cases h83 : chAt fmt np = 83
        · rw [if_pos h83, convDig_S _ (fmt.toList.drop (np + 1)) (by rw [hds]; exact hw.1) (by rw [hds]; exact hw.2)
            (by rw [hdw, h83]), hds]
        · rw [if_neg h83, convDig_F _ (fmt.toList.drop (np + 1)) (by rw [hds]; exact hw.1) (by rw [hds]; exact hw.2)
            (by rw [hdw, hx.resolve_left h83]), hds]
      · refine run_absorbs_byte ih hp hlt h37 ?_ _ rfl
        rw [hE]
        apply convDig_none_of_tail
        · rw [← hdrop, ← chAt_eq]; exact fun h => hx (Or.inl h)
        · rw [← hdrop, ← chAt_eq]; exact fun h => hx (Or.inr h)
    · rw [if_neg hw]
      refine run_absorbs_byte ih hp hlt h37 ?_ _ rfl
      rw [hE]
      exact convDig_none_of_width _ (by rw [hds]; exact hw)
  · refine run_absorbs_byte ih hp hlt h37 ?_ _ rfl
    rw [hE]
    apply convDig_none_of_not_digit
    rw [hhd]
    simpa using hdig

theorem conv_none_colon {cur2 : Nat} (hlt : cur2 < fmt.size) (h0 : chAt fmt cur2 ≠ 0)
    (hs : chAt fmt cur2 ∉ simpleSet)
    (h1 : ¬ (chAt fmt cur2 = 58 ∧ chAt fmt (cur2 + 1) = 122))
    (h2 : ¬ (chAt fmt cur2 = 58 ∧ chAt fmt (cur2 + 1) = 58 ∧ chAt fmt (cur2 + 2) = 122))
    (h3 : ¬ (chAt fmt cur2 = 58 ∧ chAt fmt (cur2 + 1) = 58 ∧ chAt fmt (cur2 + 2) = 58 ∧ chAt fmt (cur2 + 3) = 122))
    (h69 : chAt fmt cur2 ≠ 69) : conv (fmt.toList.drop cur2) = none := by
  rw [drop_cons fmt cur2 hlt, conv_cons, if_neg h0]
  by_cases h58 : chAt fmt cur2 = 58
  · rw [if_pos h58, convColon, ← chAt_eq, List.tail_drop, ← chAt_eq, List.tail_drop, ← chAt_eq,
      if_neg fun h => h1 ⟨h58, h⟩, if_neg fun h => h2 ⟨h58, h⟩, if_neg fun h => h3 ⟨h58, h⟩]
  · rw [if_neg h58, if_neg h69, if_neg hs]

theorem colonTail_val (E : Env al tm t fs) {fuel : Nat} {out2 : List Seg} {pending2 cur2 : Nat}
    (ih : SpecFrom sf fmt al tm t fs fuel cur2) (hp : pending2 < cur2) (hlt : cur2 < fmt.size)
    (h37 : chAt fmt cur2 ≠ 37) (h0 : chAt fmt cur2 ≠ 0) (hs : chAt fmt cur2 ∉ simpleSet) :
    Good sf tm (colonTail fmt al tm t fs fuel out2 pending2 cur2)
      (render sf tm out2 ++ render sf tm (lonePctSegs fmt al t fs pending2 cur2)) := by
  obtain ⟨_, ho1, ho2, ho3⟩ := formatOffset_val _ E.off1 E.off2
  have hE := fun hnc => eTail_val (sf := sf) (out2 := out2) E ih hp hlt h37 hnc
  -- a byte that is read as ':' or 'z' is not the terminating NUL: the model's end tests add nothing
  have n : ∀ i, chAt fmt i ≠ 0 → i ≠ fmt.size := fun i h => Nat.ne_of_lt (chAt_ne_zero_lt fmt i h)
  have d0 := drop_cons fmt cur2 hlt
  unfold colonTail
  dsimp only
  refine good_ite _ _ _ _ _ _ (fun hc1 => ?_) (fun hc1 => ?_)
  · obtain ⟨h58, hn1⟩ := hc1
    have d1 := drop_cons fmt (cur2 + 1) (by omega)
    refine good_ite _ _ _ _ _ _ (fun hz1 => ?_) (fun hz1 => ?_)
    · refine good_offset E _ ?_
      exact conv_closes_run ih 2 (by omega) (.colonZ 1) (by rw [d0, d1, h58, hz1]; rfl) _ ho1
    refine good_ite _ _ _ _ _ _ (fun hc2 => ?_) (fun hc2 => ?_)
    · obtain ⟨h58b, hn2⟩ := hc2
      have d2 := drop_cons fmt (cur2 + 2) (by omega)
      refine good_ite _ _ _ _ _ _ (fun hz2 => ?_) (fun hz2 => ?_)
      · refine good_offset E _ ?_
        exact conv_closes_run ih 3 (by omega) (.colonZ 2)
          (by rw [d0, d1, d2, h58, h58b, hz2]; rfl) _ ho2
      refine good_ite _ _ _ _ _ _ (fun hc3 => ?_) (fun hc3 => ?_)
      · obtain ⟨h58c, hn3⟩ := hc3
        have d3 := drop_cons fmt (cur2 + 3) (by omega)
        refine good_ite _ _ _ _ _ _ (fun hz3 => ?_) (fun hz3 => ?_)
        · refine good_offset E _ ?_
          exact conv_closes_run ih 4 (by omega) (.colonZ 3)
            (by rw [d0, d1, d2, d3, h58, h58b, h58c, hz3]; rfl) _ ho3
        · exact hE (conv_none_colon hlt h0 hs (fun h => hz1 h.2) (fun h => hz2 h.2.2) (fun h => hz3 h.2.2.2))
      · exact hE (conv_none_colon hlt h0 hs (fun h => hz1 h.2) (fun h => hz2 h.2.2)
          (fun h => hc3 ⟨h.2.2.1, n _ (by rw [h.2.2.2]; decide)⟩))
    · exact hE (conv_none_colon hlt h0 hs (fun h => hz1 h.2) (fun h => hc2 ⟨h.2.1, n _ (by rw [h.2.2]; decide)⟩)
        (fun h => hc2 ⟨h.2.1, n _ (by rw [h.2.2.1]; decide)⟩))
  · exact hE (conv_none_colon hlt h0 hs (fun h => hc1 ⟨h.1, n _ (by rw [h.2]; decide)⟩)
      (fun h => hc1 ⟨h.1, n _ (by rw [h.2.1]; decide)⟩) (fun h => hc1 ⟨h.1, n _ (by rw [h.2.1]; decide)⟩))

/-- the model's specifier table is the specification's set and '%', as `int`s -/
theorem contains_iff (c : UInt8) :
    Gen.formatSimpleSpecs.contains (c.toNat : Int) = true ↔ (c ∈ simpleSet ∨ c = 37) := by
  have htab : Gen.formatSimpleSpecs = (simpleSet ++ [37]).map (fun c : UInt8 => (c.toNat : Int)) := by decide
  rw [htab, List.contains_iff_mem, List.mem_map, ← List.mem_singleton, ← List.mem_append]
  constructor
  · rintro ⟨a, ha, h⟩
    rwa [← UInt8.toNat_inj.1 (Int.ofNat_inj.1 h)]
  · exact fun h => ⟨c, h, rfl⟩

/-- a lone '%' before `cur2`: the conversion dispatch of the model is `Lex.conv` -/
theorem specTail_val (E : Env al tm t fs) {fuel : Nat} {out2 : List Seg}
    {pending2 cur2 percent : Nat}
    (ih : SpecFrom sf fmt al tm t fs fuel cur2) (hp : pending2 < cur2) (hle : cur2 ≤ fmt.size)
    (h37 : chAt fmt cur2 ≠ 37) (hodd : ¬ (cur2 = fmt.size ∨ (cur2 - percent) % 2 = 0)) :
    Good sf tm (specTail fmt al tm t fs fuel out2 pending2 cur2 percent)
      (render sf tm out2 ++ render sf tm (lonePctSegs fmt al t fs pending2 cur2)) := by
  have hlt : cur2 < fmt.size := by
    have : cur2 ≠ fmt.size := fun h => hodd (Or.inl h)
    omega
  unfold specTail
  rw [if_neg hodd]
  dsimp only
  refine good_ite _ _ _ _ _ _ (fun hsim => ?_) (fun hsim => ?_)
  · have hc : chAt fmt cur2 = 0 ∨ chAt fmt cur2 ∈ simpleSet :=
      hsim.imp_right fun h => ((contains_iff _).1 h).resolve_right h37
    obtain ⟨p1, p2⟩ := simplePiece_renders E _ hc
    refine good_bind p1 ?_
    refine conv_closes_run ih 1 (by omega) _ ?_ _ p2
    rw [drop_cons fmt cur2 hlt, conv_cons]
    by_cases h0 : chAt fmt cur2 = 0
    · rw [if_pos h0, if_pos h0]
    · have hmem := hc.resolve_left h0
      rw [if_neg h0, if_neg h0, if_neg (by intro h; rw [h] at hmem; revert hmem; decide),
        if_neg (by intro h; rw [h] at hmem; revert hmem; decide), if_pos hmem]
  · exact colonTail_val E ih hp hlt h37 (fun h => hsim (Or.inl h))
      (fun h => hsim (Or.inr ((contains_iff _).2 (Or.inl h))))

end

end Cctz.Lx
