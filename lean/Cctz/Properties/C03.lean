/-
  C03 — Instant → civil → instant round trip recovers the instant (table level, no-shift path;
  every int64 instant, seam included, is in Properties/Seam.lean).
-/
import Cctz.Model.Tz
import Cctz.Spec.TableSem
import Cctz.Proofs.TableCivil

namespace Cctz.C03
open Cctz Cctz.Tz Cctz.Spec

/-- looking up the civil second that lookup(t) reports recovers t: UNIQUE with pre = t, or REPEATED
with t one of pre/post; never SKIPPED -/
def roundtrip_statement : Prop :=
  ∀ (z : Zone) (h h' : Nat) (t : Int), TableWF z → CivilCols z → Separated z → inI64 t →
    (z.extended = false ∨ t < timeOf z (z.transitions.size - 1)) →
    let cs := (breakTime z h t).val.1.cs
    NoShift z cs →
    let r := (makeTime z h' cs).val.1
    (r.kind = .unique ∧ r.pre = t) ∨ (r.kind = .repeated ∧ (r.pre = t ∨ r.post = t))

/-- conversely every unsaturated instant returned for a UNIQUE or REPEATED civil second displays it -/
def converse_statement : Prop :=
  ∀ (z : Zone) (h : Nat) (cs : Fields), TableWF z → CivilCols z → Separated z → Valid cs → NoShift z cs →
    let r := (makeTime z h cs).val.1
    (r.kind = .unique → i64min < r.pre → r.pre < i64max → shows z r.pre (secNum cs)) ∧
    (r.kind = .repeated → shows z r.pre (secNum cs) ∧ shows z r.post (secNum cs))

end Cctz.C03

namespace Cctz.C03
open Cctz Cctz.Tz Cctz.Spec Cctz.Tc

theorem converse : converse_statement := by
  intro z h cs wf cols sep vcs ns r
  rcases (makeTime_outcome z h cs wf cols sep vcs ns).spec wf sep with
    ⟨t, w, hr, hu, hw, _⟩ | ⟨i, hi, hr, _⟩ | ⟨i, hi, hr, hu, _⟩ <;>
    rw [show r = _ from hr]
  · refine ⟨fun _ hlo hhi => ?_, nofun⟩
    have hlo : i64min < w := hlo
    have hhi : w < i64max := hhi
    rw [show w = t by omega]
    exact (hu t).2 rfl
  · exact ⟨nofun, nofun⟩
  · exact ⟨nofun, fun _ => ⟨(hu _).2 (Or.inl rfl), (hu _).2 (Or.inr rfl)⟩⟩

theorem roundtrip : roundtrip_statement := by
  intro z h h' t wf cols sep ht hc cs ns
  have hb := Tl.breakTimeCore_spec z wf cols h t
  rw [← Tl.breakTime_noshift z h t hc] at hb
  obtain ⟨vcs, hsh⟩ : Valid cs ∧ shows z t (secNum cs) := ⟨hb.1, hb.2.1.symm⟩
  intro r
  rcases (makeTime_outcome z h' cs wf cols sep vcs ns).spec wf sep with
    ⟨t', w, hr, hu, hw, _⟩ | ⟨i, hi, hr, hno, _⟩ | ⟨i, hi, hr, hu, _⟩ <;>
    rw [show r = _ from hr]
  · have := (hu t).1 hsh
    unfold inI64 at ht
    exact Or.inl ⟨rfl, show w = t by omega⟩
  · exact absurd hsh (hno t)
  · exact Or.inr ⟨rfl, ((hu t).1 hsh).imp Eq.symm Eq.symm⟩

/-! ### the hypotheses are satisfiable -/

/-- an instant inside the overlap of `zEx`: its civil second is REPEATED and the instant is `post` -/
example : TableWF zEx ∧ CivilCols zEx ∧ Separated zEx ∧ inI64 2001600 ∧
    (zEx.extended = false ∨ (2001600 : Int) < timeOf zEx (zEx.transitions.size - 1)) ∧
    NoShift zEx (breakTime zEx 0 2001600).val.1.cs :=
  ⟨zEx_wf, zEx_cols, zEx_sep, by decide, Or.inl rfl, Or.inl rfl⟩
example : (breakTime zEx 0 2001600).val.1.cs = ⟨1970, 1, 24, 4, 0, 0⟩ ∧
    (Tz.makeTime zEx 3 ⟨1970, 1, 24, 4, 0, 0⟩).val.1 = ⟨.repeated, 1998000, 2000000, 2001600⟩ := by
  decide +kernel

/-- hypotheses of `converse` on a UNIQUE civil second of `zEx` -/
example : TableWF zEx ∧ CivilCols zEx ∧ Separated zEx ∧ Valid ⟨1970, 1, 20, 0, 0, 0⟩ ∧
    NoShift zEx ⟨1970, 1, 20, 0, 0, 0⟩ ∧ (Tz.makeTime zEx 0 ⟨1970, 1, 20, 0, 0, 0⟩).val.1.kind = .unique :=
  ⟨zEx_wf, zEx_cols, zEx_sep, by decide, Or.inl rfl, by decide +kernel⟩

end Cctz.C03
