/-
  C13 — Concurrent loading is schedule-independent (model level: the loader state machine of
  `Cctz.Loader` at the granularity of its critical sections; any number of threads, any schedule).
  Not a theorem: freedom from data races in the C++ memory model (supported by ThreadSanitizer runs
  and by the structural facts recorded in DESIGN.md).  That const queries return the stateless
  answer whatever hint value they read is `Cctz.C14.breakTime_hint_irrelevant` / `makeTime_…`.
-/
import Cctz.Model.Loader
import Cctz.Proofs.LoaderInv

namespace Cctz.C13
open Cctz Cctz.Loader

/-- the state reached from the start by a schedule (a list of thread indices; each occurrence lets
that thread take one atomic step) -/
def reach (w : World) (names : List Name) (sched : List Nat) : LState := run w (initState names) sched

/-- an entry of the cache, once present, never changes -/
def map_monotone_statement : Prop :=
  ∀ (w : World) (s : LState) (τ : Nat) (n : Name) (id : Ident),
    s.map.lookup n = some id → (step w s τ).map.lookup n = some id

/-- all threads that load the same name obtain the same zone and the same success flag,
whichever thread's load finishes first -/
def same_name_same_identity_statement : Prop :=
  ∀ (w : World) (names : List Name) (sched : List Nat) (i j : Nat) (ti tj : Thread) (ok1 ok2 : Bool) (id1 id2 : Ident),
    (reach w names sched).threads[i]? = some ti → (reach w names sched).threads[j]? = some tj →
    ti.name = tj.name → ti.pc = .done ok1 id1 → tj.pc = .done ok2 id2 → id1 = id2 ∧ ok1 = ok2

/-- every value returned under any interleaving is what a single-threaded execution returns:
the success flag is the sequential one, and the zone is UTC exactly for UTC names and failures -/
def result_is_sequential_statement : Prop :=
  ∀ (w : World) (names : List Name) (sched : List Nat) (i : Nat) (t : Thread) (ok : Bool) (id : Ident),
    (reach w names sched).threads[i]? = some t → t.pc = .done ok id →
    ok = seqOk w t.name ∧ (id = .utc ↔ (isUtcName t.name = true ∨ seqOk w t.name = false)) ∧ (ok = true ↔ id ≠ .utc ∨ isUtcName t.name = true)

/-- different names never share a (non-UTC) zone object -/
def distinct_names_distinct_zones_statement : Prop :=
  ∀ (w : World) (names : List Name) (sched : List Nat) (i j : Nat) (ti tj : Thread) (ok1 ok2 : Bool) (g1 g2 : Nat),
    (reach w names sched).threads[i]? = some ti → (reach w names sched).threads[j]? = some tj →
    ti.name ≠ tj.name → ti.pc = .done ok1 (.impl g1) → tj.pc = .done ok2 (.impl g2) → g1 ≠ g2

/-- no thread can be blocked by another: four of its own steps always finish a load -/
def progress_statement : Prop :=
  ∀ (w : World) (s : LState) (τ : Nat) (t : Thread), s.threads[τ]? = some t →
    ∃ ok id, ((run w s [τ, τ, τ, τ]).threads[τ]?.map (·.pc)) = some (.done ok id)

theorem map_monotone : map_monotone_statement := by
  intro w s τ n id h
  rcases step_cases w s τ with ⟨_, e⟩ | ⟨t, s0, p', _, m, e⟩ <;> rw [e]
  · exact h
  · exact m.map_mono h

/-- what the invariant says about a finished thread -/
theorem done_spec (w : World) (names : List Name) (sched : List Nat) (i : Nat) (t : Thread)
    (ok : Bool) (id : Ident) (h : (reach w names sched).threads[i]? = some t)
    (hp : t.pc = .done ok id) :
    (isUtcName t.name = true ∧ ok = true ∧ id = .utc) ∨
    (isUtcName t.name = false ∧ List.lookup t.name (reach w names sched).map = some id ∧
      ok = (id != .utc)) := by
  have I := inv_reach w names sched
  have := I.thr i t h
  rw [hp] at this
  exact this

theorem same_name_same_identity : same_name_same_identity_statement := by
  intro w names sched i j ti tj ok1 ok2 id1 id2 hi hj hn hp1 hp2
  rcases done_spec w names sched i ti ok1 id1 hi hp1 with ⟨u1, a1, b1⟩ | ⟨u1, a1, b1⟩
  · rcases done_spec w names sched j tj ok2 id2 hj hp2 with ⟨u2, a2, b2⟩ | ⟨u2, a2, b2⟩
    · exact ⟨by rw [b1, b2], by rw [a1, a2]⟩
    · rw [hn, u2] at u1; cases u1
  · rcases done_spec w names sched j tj ok2 id2 hj hp2 with ⟨u2, a2, b2⟩ | ⟨u2, a2, b2⟩
    · rw [hn, u2] at u1; cases u1
    · rw [hn, a2] at a1
      have e : id2 = id1 := Option.some.inj a1
      subst e
      exact ⟨rfl, by rw [b1, b2]⟩

theorem result_is_sequential : result_is_sequential_statement := by
  intro w names sched i t ok id h hp
  have I := inv_reach w names sched
  rcases done_spec w names sched i t ok id h hp with ⟨u, a, b⟩ | ⟨u, a, b⟩
  · subst a; subst b
    simp [seqOk, u]
  · obtain ⟨_, m⟩ := I.mapUtc t.name id a
    subst b
    cases id with
    | utc =>
      have := m.mp rfl
      simp [this, u]
    | impl g =>
      have : seqOk w t.name = true := by
        cases e : seqOk w t.name with
        | true => rfl
        | false => exact absurd (m.mpr e) (by simp)
      simp [this, u]

theorem distinct_names_distinct_zones : distinct_names_distinct_zones_statement := by
  intro w names sched i j ti tj ok1 ok2 g1 g2 hi hj hn hp1 hp2 e
  have I := inv_reach w names sched
  subst e
  rcases done_spec w names sched i ti ok1 _ hi hp1 with ⟨_, _, b1⟩ | ⟨_, a1, _⟩
  · cases b1
  · rcases done_spec w names sched j tj ok2 _ hj hp2 with ⟨_, _, b2⟩ | ⟨_, a2, _⟩
    · cases b2
    · exact hn (I.mapInj _ _ _ a1 a2)

theorem progress : progress_statement := by
  intro w s τ t h
  obtain ⟨t', ok, id, h', _, hp⟩ := block_done w h
  exact ⟨ok, id, by rw [h']; simp [hp]⟩

/-- the hypotheses of the statements above are satisfiable: two threads racing on the same
(unloadable) name both finish with UTC / failure -/
example : ∃ ti tj, (reach { data := fun _ => none } [[120], [120]] [0, 1, 0, 1, 0, 1, 0, 1]).threads[0]? = some ti ∧
    (reach { data := fun _ => none } [[120], [120]] [0, 1, 0, 1, 0, 1, 0, 1]).threads[1]? = some tj ∧
    ti.name = tj.name ∧ ti.pc = .done false .utc ∧ tj.pc = .done false .utc := by
  refine ⟨⟨[120], .done false .utc⟩, ⟨[120], .done false .utc⟩, ?_⟩
  decide +kernel

end Cctz.C13
