/-
  Checked-arithmetic writer monad used by every model file.

  A C++ operation that can be undefined (signed overflow, out-of-range index,
  read of a never-written field, a loop with no variant) is modelled by a
  primitive that computes the mathematical value and raises a flag.  Value
  theorems ignore the flags (`bind_val`), safety theorems are statements that
  no flag is raised (`Ck.ok`).
-/
namespace Cctz

structure Flags where
  ovf   : Bool := false   -- signed 64/32-bit overflow (UBSan: signed-integer-overflow)
  oob   : Bool := false   -- index outside an array / read past a buffer
  unset : Bool := false   -- read of a field the C++ never wrote
  fuel  : Bool := false   -- a loop of the C++ that has no variant ran out of fuel
deriving DecidableEq, Repr, Inhabited

namespace Flags
def none : Flags := {}
def or (a b : Flags) : Flags :=
  { ovf := a.ovf || b.ovf, oob := a.oob || b.oob, unset := a.unset || b.unset, fuel := a.fuel || b.fuel }
def any (a : Flags) : Bool := a.ovf || a.oob || a.unset || a.fuel
@[simp] theorem none_or (a : Flags) : none.or a = a := by cases a; simp [none, or]
@[simp] theorem or_none (a : Flags) : a.or none = a := by cases a; simp [none, or]
theorem or_assoc (a b c : Flags) : (a.or b).or c = a.or (b.or c) := by
  cases a; cases b; cases c; simp [or, Bool.or_assoc]
@[simp] theorem or_eq_none (a b : Flags) : a.or b = none ↔ a = none ∧ b = none := by
  cases a; cases b; simp [or, none]; grind
end Flags

structure Ck (α : Type) where
  val : α
  flags : Flags := {}
deriving Repr

namespace Ck
@[inline] def pure' (a : α) : Ck α := ⟨a, {}⟩
@[inline] def bind' (x : Ck α) (f : α → Ck β) : Ck β :=
  let y := f x.val
  ⟨y.val, x.flags.or y.flags⟩

instance : Monad Ck where
  pure := pure'
  bind := bind'

/-- no flag raised -/
def ok (x : Ck α) : Prop := x.flags = Flags.none
instance (x : Ck α) : Decidable x.ok := by unfold ok; infer_instance

@[simp] theorem pure_val (a : α) : (pure a : Ck α).val = a := rfl
@[simp] theorem pure_flags (a : α) : (pure a : Ck α).flags = Flags.none := rfl
@[simp] theorem pure_ok (a : α) : (pure a : Ck α).ok := rfl
@[simp] theorem bind_val (x : Ck α) (f : α → Ck β) : (x >>= f).val = (f x.val).val := rfl
@[simp] theorem bind_flags (x : Ck α) (f : α → Ck β) :
    (x >>= f).flags = x.flags.or (f x.val).flags := rfl
@[simp] theorem bind_ok (x : Ck α) (f : α → Ck β) : (x >>= f).ok ↔ x.ok ∧ (f x.val).ok := by
  simp [ok]
@[simp] theorem map_val (x : Ck α) (f : α → β) : (f <$> x).val = f x.val := rfl
@[simp] theorem map_flags (x : Ck α) (f : α → β) : (f <$> x).flags = x.flags := by
  show (x.flags.or Flags.none) = _; simp
@[simp] theorem map_ok (x : Ck α) (f : α → β) : (f <$> x).ok ↔ x.ok := by simp [ok]
@[simp] theorem mk_val (a : α) (f : Flags) : (Ck.mk a f).val = a := rfl

/-! `bind_val` is a `rfl`-lemma: `simp` then leaves a definitional-equality check to the kernel,
which compares the (large, different) arguments of `Ck.val` first and can take minutes on a long
call chain such as `n_sec` … `n_day`.  `bindv`, `bindv'` are the same equations as ordinary
rewrite lemmas. -/
theorem bindv (x : Ck α) (f : α → Ck β) : (x >>= f).val = (f x.val).val := by
  cases x; rfl
theorem bindv' (x : Ck α) (f : α → Ck β) : (x.bind' f).val = (f x.val).val := by
  cases x; rfl
@[simp] theorem bind'_ok (x : Ck α) (f : α → Ck β) : (x.bind' f).ok ↔ x.ok ∧ (f x.val).ok :=
  bind_ok x f

theorem ite_val {c : Prop} [Decidable c] (x y : Ck α) :
    (if c then x else y).val = if c then x.val else y.val := by
  split <;> rfl
theorem ite_flags {c : Prop} [Decidable c] (x y : Ck α) :
    (if c then x else y).flags = if c then x.flags else y.flags := by
  split <;> rfl
theorem ite_ok {c : Prop} [Decidable c] (x y : Ck α) :
    (if c then x else y).ok ↔ if c then x.ok else y.ok := by
  split <;> rfl
theorem ok_ite {c : Prop} [Decidable c] {x y : Ck α} (h1 : c → x.ok) (h2 : ¬ c → y.ok) :
    (if c then x else y).ok := by
  split
  · exact h1 ‹_›
  · exact h2 ‹_›
end Ck

/-! ### integer ranges -/
def i64min : Int := -9223372036854775808
def i64max : Int := 9223372036854775807
def i32min : Int := -2147483648
def i32max : Int := 2147483647

def inI64 (x : Int) : Prop := i64min ≤ x ∧ x ≤ i64max
instance (x : Int) : Decidable (inI64 x) := by unfold inI64; infer_instance
def inI32 (x : Int) : Prop := i32min ≤ x ∧ x ≤ i32max
instance (x : Int) : Decidable (inI32 x) := by unfold inI32; infer_instance

/-- C++ `/` and `%` on signed integers: truncation toward zero. -/
@[inline] def cdiv (a b : Int) : Int := Int.tdiv a b
@[inline] def cmod (a b : Int) : Int := Int.tmod a b

/-- the value `x` produced by a 64-bit signed operation: flag `ovf` iff it does not fit -/
@[inline] def chk64 (x : Int) : Ck Int := ⟨x, { ovf := !decide (inI64 x) }⟩
/-- same for an operation carried out in `int` (32 bit) -/
@[inline] def chk32 (x : Int) : Ck Int := ⟨x, { ovf := !decide (inI32 x) }⟩

@[simp] theorem chk64_val (x : Int) : (chk64 x).val = x := rfl
@[simp] theorem chk32_val (x : Int) : (chk32 x).val = x := rfl
@[simp] theorem chk64_ok (x : Int) : (chk64 x).ok ↔ inI64 x := by
  simp [chk64, Ck.ok, Flags.none]
@[simp] theorem chk32_ok (x : Int) : (chk32 x).ok ↔ inI32 x := by
  simp [chk32, Ck.ok, Flags.none]

def flagOob : Flags := { oob := true }
def flagUnset : Flags := { unset := true }
def flagFuel : Flags := { fuel := true }

/-- checked read of `a[i]` for a C array given as a list; `dflt` is returned (and `oob`
raised) when the index is outside the array -/
def getC (a : List α) (i : Int) (dflt : α) : Ck α :=
  if 0 ≤ i ∧ i < a.length then ⟨a.getD i.toNat dflt, {}⟩ else ⟨dflt, flagOob⟩

@[simp] theorem getC_val_of_lt (a : List α) (i : Int) (dflt : α) (h : 0 ≤ i ∧ i < a.length) :
    (getC a i dflt).val = a.getD i.toNat dflt := by simp [getC, h]
theorem getC_ok (a : List α) (i : Int) (dflt : α) : (getC a i dflt).ok ↔ 0 ≤ i ∧ i < a.length := by
  unfold getC; split <;> simp_all [Ck.ok, Flags.none, flagOob]

@[inline] def b2i (b : Bool) : Int := if b then 1 else 0

end Cctz
