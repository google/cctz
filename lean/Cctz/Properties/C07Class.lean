/-
  C07 (continued) — format() followed by parse() returns the original instant for a whole CLASS of
  format strings, not just for "%Y-%m-%d%ET%H:%M:%E*S%E*z" (C07Whole).

  The class (`Rtc.Lossless`, a decidable predicate on the bytes of the format string; definitions in
  `Cctz/Proofs/RtClassDefs.lean`) — a format is a sequence of items, each one of
    * a literal byte other than '%' and NUL (white space allowed anywhere),
    * "%%",
    * %Y %m %d %e %H %M %S  %E*S %E<n>S  %E*f %E<n>f (15 ≤ n ≤ 1024)  %E*z %::z %:::z  %ET
  such that
    FOLLOW  %Y, %E*S, %E<n>S, %E*f, %E<n>f and %:::z are not directly followed by an item whose text may
            begin with a digit (a digit literal, or any conversion except the offsets, %ET and %%);
            the same for a %e at the beginning of the format or directly behind white space;
            %E*S is not directly followed by a literal '.', %:::z not by a literal ':'.
            Reason: parse() reads these with unlimited width — a signed decimal, all digits of a
            fraction, further groups of an offset; `%e` is read with width 2 once its padding blank was
            skipped with the white space before it (the text's leading white space is skipped too).
            The two-digit conversions and the offsets that always show their seconds are read with a
            fixed width: "%H%M%S" and "%m%d%Y" are in the class.  `%E*S` writes no fraction for whole
            seconds, so a '.' behind it would be taken for its own.  A '-' before a signed field is
            harmless ("%m-%Y" reads "03--5" back).
    FIELDS  year (%Y), month (%m), day (%d or %e), hour (%H), minute (%M), second (%S, %E*S, %E<n>S),
            the fraction in full (%E*S, %E<n>S, %E*f, %E<n>f with n ≥ 15) and the offset in full
            (%E*z, %::z, %:::z) each occur at least once (repetitions are fine: they read the same value).
    NO %s   parse() returns the %s value with a ZERO fraction, whatever else the text says: formats
            with %s form the separate class `Rtc.LosslessS`, whose round trip returns (t, 0).
  The EXTENDED class `Rtc.LosslessX` also contains %Ez %:z %z (followed neither by a digit item nor,
  for %Ez %:z, by ':') and %E4Y; they are exact under a hypothesis on the instant: the offset is a whole
  number of minutes (`usesMinutes`), the year is one of −999 … 9999 (`usesYear4`).
  `Lossless f ↔ LosslessX f ∧ ¬ usesMinutes f ∧ ¬ usesYear4 f`.
  Not in any class: %Z and everything left to strftime (not lossless / not library-defined).
-/
import Cctz.Model.Parse
import Cctz.Spec.FormatSpec
import Cctz.Spec.FormatLex
import Cctz.Proofs.RtClassDefs
import Cctz.Proofs.RtClassMain
import Cctz.Proofs.BytesLemmas

namespace Cctz.C07Class
open Cctz Cctz.Bytes Cctz.Format Cctz.Parse Cctz.Spec Cctz.Rtc

/-! ## Statements -/

/-- format then parse returns the original instant and femtoseconds — for EVERY format of the class,
every lookup result that shows the civil second of instant `t` under an offset strictly inside
±24 h (what `lookup(t)` reports in any zone — C01), every femtosecond remainder, any
strftime/strptime, and ANY zone handed to parse (the offset in the text decides) -/
def class_roundtrip_statement : Prop :=
  ∀ (fmt : Bytes) (al : Tz.AbsLookup) (t fs : Int) (z' : Tz.Zone) (sf : Strftime) (sp : Strptime),
    Lossless fmt →
    Valid al.cs → secNum al.cs = t + al.offset → -86400 < al.offset → al.offset < 86400 →
    inI64 t → i64min + 86400 ≤ t → t ≤ i64max - 86400 → 0 ≤ fs → fs < 1000000000000000 →
    (parse sp fmt (format sf fmt al t fs).val z').val.1 = .ok t fs

/-- the extended class: with %Ez/%:z/%z the offset must be whole minutes, with %E4Y the year must
have four characters -/
def class_roundtrip_ext_statement : Prop :=
  ∀ (fmt : Bytes) (al : Tz.AbsLookup) (t fs : Int) (z' : Tz.Zone) (sf : Strftime) (sp : Strptime),
    LosslessX fmt →
    (usesMinutes fmt = true → al.offset % 60 = 0) →
    (usesYear4 fmt = true → -999 ≤ al.cs.y ∧ al.cs.y ≤ 9999) →
    Valid al.cs → secNum al.cs = t + al.offset → -86400 < al.offset → al.offset < 86400 →
    inI64 t → i64min + 86400 ≤ t → t ≤ i64max - 86400 → 0 ≤ fs → fs < 1000000000000000 →
    (parse sp fmt (format sf fmt al t fs).val z').val.1 = .ok t fs

/-- … in particular: offsets without seconds, for instants whose offset is whole minutes -/
def class_roundtrip_minutes_statement : Prop :=
  ∀ (fmt : Bytes) (al : Tz.AbsLookup) (t fs : Int) (z' : Tz.Zone) (sf : Strftime) (sp : Strptime),
    LosslessX fmt → usesYear4 fmt = false → al.offset % 60 = 0 →
    Valid al.cs → secNum al.cs = t + al.offset → -86400 < al.offset → al.offset < 86400 →
    inI64 t → i64min + 86400 ≤ t → t ≤ i64max - 86400 → 0 ≤ fs → fs < 1000000000000000 →
    (parse sp fmt (format sf fmt al t fs).val z').val.1 = .ok t fs

/-- … and %E4Y, for the years it writes with four characters -/
def class_roundtrip_year4_statement : Prop :=
  ∀ (fmt : Bytes) (al : Tz.AbsLookup) (t fs : Int) (z' : Tz.Zone) (sf : Strftime) (sp : Strptime),
    LosslessX fmt → usesMinutes fmt = false → -999 ≤ al.cs.y → al.cs.y ≤ 9999 →
    Valid al.cs → secNum al.cs = t + al.offset → -86400 < al.offset → al.offset < 86400 →
    inI64 t → i64min + 86400 ≤ t → t ≤ i64max - 86400 → 0 ≤ fs → fs < 1000000000000000 →
    (parse sp fmt (format sf fmt al t fs).val z').val.1 = .ok t fs

/-- formats with `%s` (and anything of the extended class around it that reads back): parse()
returns the instant — and a zero fraction, even when the format carries the fraction in full -/
def class_roundtrip_s_statement : Prop :=
  ∀ (fmt : Bytes) (al : Tz.AbsLookup) (t fs : Int) (z' : Tz.Zone) (sf : Strftime) (sp : Strptime),
    LosslessS fmt →
    (usesMinutes fmt = true → al.offset % 60 = 0) →
    (usesYear4 fmt = true → -999 ≤ al.cs.y ∧ al.cs.y ≤ 9999) →
    Valid al.cs → secNum al.cs = t + al.offset → -86400 < al.offset → al.offset < 86400 →
    inI64 t → i64min + 86400 ≤ t → t ≤ i64max - 86400 → 0 ≤ fs → fs < 1000000000000000 →
    (parse sp fmt (format sf fmt al t fs).val z').val.1 = .ok t 0

/-- the text written for a format made of items is the concatenation of the items' documented
renderings (no strftime involved) -/
def class_text_statement : Prop :=
  ∀ (fmt : Bytes) (l : List Item) (al : Tz.AbsLookup) (t fs : Int) (sf : Strftime),
    itemsOf fmt = some l →
    Valid al.cs → inI64 al.cs.y → -86400 < al.offset → al.offset < 86400 → inI64 t → 0 ≤ fs →
    fs < 1000000000000000 →
    (format sf fmt al t fs).val = renderAll al t fs l

/-- the class, read off the items of the format string (`itemsOf f = some l` implies that `l` spells
`f` and is well formed: `Rtc.itemsOf_sound`) -/
def lossless_iff_statement : Prop :=
  ∀ (f : Bytes), Lossless f ↔
    ∃ l, itemsOf f = some l ∧ followOk true l = true ∧ allFields l = true ∧ hasFld l .unix = false ∧
      l.any Item.wholeMinutes = false ∧ l.any Item.fourCharYear = false

/-! ## The classes contain / reject

(`ofString_eq` before each evaluation: see `Cctz/Proofs/BytesLemmas.lean`) -/

example : Lossless (ofString "%Y-%m-%d%ET%H:%M:%E*S%E*z") := by simp only [ofString_eq]; decide +kernel
example : Lossless (ofString "%Y-%m-%d %H:%M:%E*S %E*z") := by simp only [ofString_eq]; decide +kernel
example : Lossless (ofString "%d/%m/%Y %H.%M.%E*S%::z") := by simp only [ofString_eq]; decide +kernel
example : Lossless (ofString "%E*z %E*S:%M:%H %d.%m.%Y") := by simp only [ofString_eq]; decide +kernel
example : Lossless (ofString "%Y-%m-%e %H:%M:%E15S%E*z") := by simp only [ofString_eq]; decide +kernel
example : Lossless (ofString "  %m-%d-%Y\t%H%M%S.%E*f%%%::z\n") := by simp only [ofString_eq]; decide +kernel
example : Lossless (ofString "%m%d%H%M%E*S%E*z%Y") := by simp only [ofString_eq]; decide +kernel       -- fixed-width fields may touch
example : Lossless (ofString "x%e%H:%M:%E*S%E*z %Y-%m") := by simp only [ofString_eq]; decide +kernel   -- %e behind a literal
example : Lossless (ofString "%Y-%m-%d %H:%M:%E*S %:::z") := by simp only [ofString_eq]; decide +kernel
example : LosslessX (ofString "%E4Y%m%d%H%M%E*S%Ez") := by simp only [ofString_eq]; decide +kernel
example : usesMinutes (ofString "%E4Y%m%d%H%M%E*S%Ez") = true ∧ usesYear4 (ofString "%E4Y%m%d%H%M%E*S%Ez") = true := by
  simp only [ofString_eq]; decide +kernel
example : LosslessS (ofString "x%sy") := by simp only [ofString_eq]; decide +kernel
example : LosslessS (ofString "%s.%E*f") := by simp only [ofString_eq]; decide +kernel
example : losslessb (ofString "%E4Y%m%d") = false ∧ losslessXb (ofString "%E4Y%m%d") = false := by
  simp only [ofString_eq]; decide +kernel                                                               -- no time of day, no offset
example : losslessb (ofString "%Y%m%d %H:%M:%E*S%E*z") = false := by simp only [ofString_eq]; decide +kernel   -- %Y then a digit
example : losslessb (ofString "%Y-%m-%d %H:%M:%E*S.%E*z") = false := by simp only [ofString_eq]; decide +kernel -- %E*S then '.'
example : losslessb (ofString "%e%H:%M:%E*S%E*z %Y-%m") = false := by simp only [ofString_eq]; decide +kernel   -- leading %e then a digit
example : losslessb (ofString "%Y-%m-%d %H:%M:%S%E*z") = false := by simp only [ofString_eq]; decide +kernel    -- no fraction
example : losslessb (ofString "%Y-%m-%d %H:%M:%E3S%E*z") = false := by simp only [ofString_eq]; decide +kernel  -- fraction cut
example : losslessb (ofString "%Y-%m-%d %H:%M:%E*S%Ez") = false := by simp only [ofString_eq]; decide +kernel   -- offset cut
example : losslessXb (ofString "%Y-%m %H:%M:%E*S%Ez%d") = false := by simp only [ofString_eq]; decide +kernel   -- %Ez then a digit
example : losslessb (ofString "%Y-%m-%d %H:%M:%E*S%E*z %Z") = false := by simp only [ofString_eq]; decide +kernel
example : losslessb (ofString "%a %Y-%m-%d %H:%M:%E*S%E*z") = false := by simp only [ofString_eq]; decide +kernel

/-! ## Proofs (helper lemmas in `Cctz/Proofs/RtClass*.lean`) -/

theorem class_roundtrip_ext : class_roundtrip_ext_statement := by
  intro fmt al t fs z' sf sp hL hm hy hv hsec ho1 ho2 _ ht1 ht2 h0 h1
  exact (roundtrip_ext sp sf z' al t fs fmt hm hy hv hsec ho1 ho2 ht1 ht2 h0 h1).1 hL

theorem class_roundtrip : class_roundtrip_statement := by
  intro fmt al t fs z' sf sp hL hv hsec ho1 ho2 ht ht1 ht2 h0 h1
  obtain ⟨⟨hX, hm⟩, hy⟩ : (LosslessX fmt ∧ usesMinutes fmt = false) ∧ usesYear4 fmt = false := by
    simpa [Lossless, losslessb, LosslessX] using hL
  exact class_roundtrip_ext fmt al t fs z' sf sp hX (fun h => by rw [hm] at h; cases h)
    (fun h => by rw [hy] at h; cases h) hv hsec ho1 ho2 ht ht1 ht2 h0 h1

theorem class_roundtrip_minutes : class_roundtrip_minutes_statement := by
  intro fmt al t fs z' sf sp hX hy hmin hv hsec ho1 ho2 ht ht1 ht2 h0 h1
  exact class_roundtrip_ext fmt al t fs z' sf sp hX (fun _ => hmin) (fun h => by rw [hy] at h; cases h)
    hv hsec ho1 ho2 ht ht1 ht2 h0 h1

theorem class_roundtrip_year4 : class_roundtrip_year4_statement := by
  intro fmt al t fs z' sf sp hX hm hy1 hy2 hv hsec ho1 ho2 ht ht1 ht2 h0 h1
  exact class_roundtrip_ext fmt al t fs z' sf sp hX (fun h => by rw [hm] at h; cases h) (fun _ => ⟨hy1, hy2⟩)
    hv hsec ho1 ho2 ht ht1 ht2 h0 h1

theorem class_roundtrip_s : class_roundtrip_s_statement := by
  intro fmt al t fs z' sf sp hL hm hy hv hsec ho1 ho2 _ ht1 ht2 h0 h1
  exact (roundtrip_ext sp sf z' al t fs fmt hm hy hv hsec ho1 ho2 ht1 ht2 h0 h1).2 hL

theorem lossless_iff : lossless_iff_statement := by
  intro f
  unfold Lossless losslessb losslessXb usesMinutes usesYear4
  cases h : itemsOf f with
  | none => simp
  | some l => simp [Bool.and_assoc]

theorem class_text : class_text_statement := by
  intro fmt l al t fs sf hl hv hy ho1 ho2 ht h0 h1
  obtain ⟨rfl, hvl⟩ := itemsOf_sound fmt l hl
  exact format_items sf ⟨hv, hy, ho1, ho2, ht, h0, h1⟩ l hvl

/-! ## The hypotheses are satisfiable; concrete round trips

Year −5 (6 BC), March 5th 07:08:09.5 at UTC−03:30:15 is the instant −62319504096;
2024-02-29 23:59:58.5 at UTC+05:30 is the instant 1709231398. -/

def exAl : Tz.AbsLookup := ⟨⟨-5, 3, 5, 7, 8, 9⟩, -12615, false, ofString "X"⟩
def exT : Int := -62319504096
def exFs : Int := 500000000000000
def exAlM : Tz.AbsLookup := ⟨⟨2024, 2, 29, 23, 59, 58⟩, 19800, false, ofString "IST"⟩
def exTM : Int := 1709231398

example : Valid exAl.cs ∧ secNum exAl.cs = exT + exAl.offset ∧ -86400 < exAl.offset ∧ exAl.offset < 86400 ∧
    inI64 exT ∧ i64min + 86400 ≤ exT ∧ exT ≤ i64max - 86400 ∧ 0 ≤ exFs ∧ exFs < 1000000000000000 := by
  decide +kernel
example : Valid exAlM.cs ∧ secNum exAlM.cs = exTM + exAlM.offset ∧ -86400 < exAlM.offset ∧ exAlM.offset < 86400 ∧
    inI64 exTM ∧ i64min + 86400 ≤ exTM ∧ exTM ≤ i64max - 86400 ∧ exAlM.offset % 60 = 0 ∧
    -999 ≤ exAlM.cs.y ∧ exAlM.cs.y ≤ 9999 := by
  decide +kernel

/-- format, then parse (in the zone with an empty table; no strftime/strptime): the text and the result -/
def rt (al : Tz.AbsLookup) (t : Int) (f : String) (fs : Int) : Bytes × Result :=
  let text := (format (fun _ _ => []) (ofString f) al t fs).val
  (text, (parse (fun _ _ _ => none) (ofString f) text {}).val.1)
def exRt (f : String) (fs : Int) : Bytes × Result := rt exAl exT f fs
def exRtM (f : String) (fs : Int) : Bytes × Result := rt exAlM exTM f fs

example : exRt "%d/%m/%Y %H.%M.%E*S%::z" exFs =
    (ofString "05/03/-5 07.08.09.5-03:30:15", .ok exT exFs) := by simp only [exRt, rt, ofString_eq]; decide +kernel
example : exRt "%E*z %E*S:%M:%H %e.%m.%Y" exFs =
    (ofString "-03:30:15 09.5:08:07  5.03.-5", .ok exT exFs) := by simp only [exRt, rt, ofString_eq]; decide +kernel
example : exRt "%m-%d-%Y%ET%H%M%E18S%:::z" 5 =
    (ofString "03-05--5T070809.000000000000005000-03:30:15", .ok exT 5) := by simp only [exRt, rt, ofString_eq]; decide +kernel
example : exRt "x%sy" exFs = (ofString "x-62319504096y", .ok exT 0) := by simp only [exRt, rt, ofString_eq]; decide +kernel
example : exRtM "%E4Y%m%d%H%M%E*S%Ez" exFs = (ofString "20240229235958.5+05:30", .ok exTM exFs) := by
  simp only [exRtM, rt, ofString_eq]; decide +kernel
example : exRtM "%Y-%m-%d %H:%M:%E*S %:::z" exFs = (ofString "2024-02-29 23:59:58.5 +05:30", .ok exTM exFs) := by
  simp only [exRtM, rt, ofString_eq]; decide +kernel

/-! ## The side conditions matter (formats outside the class on which the round trip fails) -/

/-- FOLLOW, `%Y`: "%Y%m%d" — the year swallows the digits of the month and the day -/
theorem follow_needs_nondigit_after_Y :
    exRt "%Y%m%d %H:%M:%E*S%E*z" exFs = (ofString "-50305 07:08:09.5-03:30:15", .fail) := by simp only [exRt, rt, ofString_eq]; decide +kernel

/-- FOLLOW, `%E*S`: a literal '.' behind it is taken for the fraction's when the seconds are whole -/
theorem follow_needs_no_dot_after_EstarS :
    exRt "%Y-%m-%d %H:%M:%E*S.%E*z" 0 = (ofString "-5-03-05 07:08:09.-03:30:15", .fail) := by simp only [exRt, rt, ofString_eq]; decide +kernel

/-- FOLLOW, `%E*S`: digits behind it are swallowed by the fraction -/
theorem follow_needs_nondigit_after_EstarS :
    exRt "%Y-%m-%d %M:%E*S%H%E*z" exFs = (ofString "-5-03-05 08:09.507-03:30:15", .fail) := by simp only [exRt, rt, ofString_eq]; decide +kernel

/-- FOLLOW, `%e`: at the beginning of the text (or behind white space) the padding blank of a day
below 10 is skipped as white space, `%e` is then read with width 2 and takes a digit of the next field -/
theorem follow_needs_nondigit_after_leading_e :
    exRt "%e%H:%M:%E*S%E*z %Y-%m" exFs = (ofString " 507:08:09.5-03:30:15 -5-03", .fail) ∧
    exRt "%Y-%m %e%H:%M:%E*S%E*z" exFs = (ofString "-5-03  507:08:09.5-03:30:15", .fail) := by simp only [exRt, rt, ofString_eq]; decide +kernel

/-- … while behind a literal the blank is still there and the same pair reads back (in the class) -/
theorem e_after_literal_reads_back :
    exRt "x%e%H:%M:%E*S%E*z %Y-%m" exFs = (ofString "x 507:08:09.5-03:30:15 -5-03", .ok exT exFs) := by
  simp only [exRt, rt, ofString_eq]; decide +kernel

/-- FOLLOW, `%Ez` (extended class): digits behind the minutes are read as the offset's seconds -/
theorem follow_needs_nondigit_after_Ez :
    exRtM "%Y-%m %H:%M:%E*S%Ez%d" exFs = (ofString "2024-02 23:59:58.5+05:3029", .fail) := by simp only [exRtM, rt, ofString_eq]; decide +kernel

/-- FIELDS: without the fraction in full the femtoseconds are lost … -/
theorem fields_needs_fraction :
    exRt "%Y-%m-%d %H:%M:%S%E*z" exFs = (ofString "-5-03-05 07:08:09-03:30:15", .ok exT 0) ∧
    exRt "%Y-%m-%d %H:%M:%E3S%E*z" 123456789012345 =
      (ofString "-5-03-05 07:08:09.123-03:30:15", .ok exT 123000000000000) := by simp only [exRt, rt, ofString_eq]; decide +kernel

/-- … and without the seconds of the offset the instant is off by them (so `usesMinutes` formats
need the whole-minutes hypothesis) -/
theorem minutes_needs_whole_minutes :
    exRt "%Y-%m-%d %H:%M:%E*S%Ez" exFs = (ofString "-5-03-05 07:08:09.5-03:30", .ok (exT - 15) exFs) := by
  simp only [exRt, rt, ofString_eq]; decide +kernel

/-- `%E4Y` is exact only for years −999 … 9999 (parse() insists on four characters) -/
theorem year4_needs_four_characters :
    rt ⟨⟨12024, 2, 29, 23, 59, 58⟩, 0, false, []⟩ 317278771198 "%E4Y-%m-%d %H:%M:%E*S%E*z" 0 =
      (ofString "12024-02-29 23:59:58+00:00:00", .fail) := by simp only [rt, ofString_eq]; decide +kernel

/-- `%s` wins over everything else in the text, and its fraction is zero: "%s.%E*f" does not return
the femtoseconds it wrote -/
theorem percent_s_drops_fraction :
    exRt "%s.%E*f" exFs = (ofString "-62319504096.5", .ok exT 0) := by simp only [exRt, rt, ofString_eq]; decide +kernel

/-- a defect of `ParseOffset` found on the way and repaired in /repo (finding F17, commit "fix: ParseOffset
counted a one-digit minutes/seconds group it did not consume"): a minutes/seconds group of ONE digit was not
consumed, but its value still entered the offset — "+05:30" followed by the literal text "7x" parsed with an
offset of +05:30:07 (the instant came back 7 s early).  With the repair (and the model following it) the
instant is the right one: -/
theorem offset_partial_group_does_not_leak :
    exRtM "%Y-%m-%d %H:%M:%E*S%Ez7x" exFs =
      (ofString "2024-02-29 23:59:58.5+05:307x", .ok exTM exFs) := by simp only [exRtM, rt, ofString_eq]; decide +kernel

end Cctz.C07Class
