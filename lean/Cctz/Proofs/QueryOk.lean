/-
  C10: the zone queries raise no flag at all on tame tables.

  `ok` = `Safe` (no oob / unset / fuel flag: Cctz/Proofs/LdQuery.lean, from `TableIdx`) and `NoOvf`
  (no signed overflow: Cctz/Proofs/QoBreak.lean, QoMake.lean, and for `next_transition` /
  `prev_transition` the first lemmas below, from `Tame`).  The only
  place where `Tame` is not enough is the 400-year shift of `BreakTime` (QoTame.lean).
-/
import Cctz.Model.Tz
import Cctz.Spec.TableSem
import Cctz.Spec.TableTame
import Cctz.Proofs.QoBasic
import Cctz.Proofs.QoBreak
import Cctz.Proofs.QoMake
import Cctz.Proofs.QoWitness
import Cctz.Proofs.Transitions

namespace Cctz.Qo
open Cctz Cctz.Tz Cctz.Spec

theorem prevPlusOne_novf {z : Zone} (tm : Tame z) {i : Nat} (hi : i < z.transitions.size) :
    NoOvf (Civil.civilAdd .second (trn z i).prevCivilSec 1) := by
  have e := entry tm hi
  have ⟨_, _, _, sp, _, _, _, _, _, _, _, _⟩ := e
  exact civilAdd_novf _ _ e.vp (by omega) (by omega) (by decide) (by omega) (by omega)

theorem nextTransition_novf {z : Zone} (tm : Tame z) (t : Int) : NoOvf (nextTransition z t) := by
  unfold NoOvf
  rw [(Tb.nextTransition_char tm.wf t).2]
  split
  · rfl
  · exact prevPlusOne_novf tm (by have := (Tb.nextIdx_spec tm.wf t).1; omega)

theorem prevTransition_novf {z : Zone} (tm : Tame z) (t : Int) : NoOvf (prevTransition z t) := by
  unfold NoOvf
  rw [(Tb.prevTransition_char tm.wf t).2]
  split
  · rfl
  · have := Tb.prevIdx_spec tm.wf t
    exact prevPlusOne_novf tm (by omega)

end Cctz.Qo

namespace Cctz.Qo
open Cctz Cctz.Tz Cctz.Spec

/-- `BreakTime` below the 400-year shift: no flag for every `int64` instant, from `Tame` alone -/
theorem breakTimeCore_ok {z : Zone} (tm : Tame z) (h : Nat) (t : Int) (ht : inI64 t) :
    (breakTimeCore z h t).ok :=
  (ok_iff _).2 ⟨Ld.breakTimeCore_safe z (tame_idx tm) h t, breakTimeCore_novf tm h t ht⟩

/-- `BreakTime`: no flag when the last entry of an extended table is strictly beyond
`INT64_MAX mod kSecsPer400Years` -/
theorem breakTime_ok_of {z : Zone} (tm : Tame z)
    (hx : z.extended = true → 7161147008 ≤ timeOf z (z.transitions.size - 1))
    (h : Nat) (t : Int) (ht : inI64 t) : (breakTime z h t).ok :=
  (ok_iff _).2 ⟨Ld.breakTime_safe z (tame_idx tm) h t, breakTime_novf tm h t ht (fun he => by
    have := hx he
    simp only [inI64, i64min, i64max] at ht
    omega)⟩

theorem makeTime_ok_of {z : Zone} (tm : Tame z) (h : Nat) (cs : Fields) (vcs : Valid cs)
    (hy : inI64 cs.y) : (makeTime z h cs).ok :=
  (ok_iff _).2 ⟨Ld.makeTime_safe z (tame_idx tm) h cs vcs, (makeTime_nh tm h cs vcs hy).1⟩

end Cctz.Qo
