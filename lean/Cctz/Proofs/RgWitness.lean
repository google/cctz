/-
  C01 gluing: clause 1 of `Regular` is needed even when `y0` is the civil year of the last recorded
  transition, as `ExtendTransitions` takes it.  Table: recorded entries at 1970-01-01 00:00:00 (type
  0, offset +2 h) and 2007-12-31 20:00:00 UTC (standard time, offset 0); rule `J1` at -48 h,
  `J2` at -30 h with offsets 0 / +1 h, so that both rule instants "of 2008" (2007-12-30 00:00 and
  2007-12-31 17:00 UTC) are before the last recorded entry.  The 402 year pairs of 2007 … 2408 then
  start with year 2009, the last table entry is the end instant "of 2408" (2407-12-31 17:00 UTC),
  and `BreakTime` maps that instant 400 years back to 2007-12-31 17:00 UTC — inside the recorded
  part, where type 0 (+2 h) is in force, while the rule says standard time (offset 0).
-/
import Cctz.Proofs.RgExample

namespace Cctz.Rg
open Cctz Cctz.Tz Cctz.Spec

/-- types: 0 = +2 h (default and first entry), 1 = standard time, 2 = daylight time -/
def wTypes : List (Int × Bool) := [(7200, false), (0, false), (3600, true)]
/-- recorded: instant 0 → type 0; 2007-12-31 20:00:00 UTC → standard time -/
def wRec : List (Int × Nat) := [(0, 0), (1199131200, 1)]

def wZone : Zone := mkZone wTypes 0 (extEntries wRec wS wE 2 1 1199131200 2007)

theorem w_wf : TableWF wZone :=
  wf_mkZone_ext _ _ _ _ _ _ _ _ _ w_chain (by decide) (by decide) (by decide) (by decide)
    (by decide) (by decide) (by decide)

theorem w_cols : CivilCols wZone := cols_mkZone _ _ _

theorem w_lastTime : lastTime (fill wTypes 0 wRec) = 1199131200 := rfl
theorem w_lastType : lastType (fill wTypes 0 wRec) = 1 := rfl

theorem w_keys : ∃ gen, wZone.transitions.toList = fill wTypes 0 wRec ++ gen ∧
    gen.map key = (genList wS wE 2 1 (lastTime (fill wTypes 0 wRec)) 2007).map key := by
  rw [w_lastTime]
  exact keys_mkZone_ext wTypes 0 wRec wS wE 2 1 1199131200 2007

/-- the end instants "of 2008" and "of 2408" -/
theorem wE_2008 : wE 2008 = 1199120400 := by rw [(w_formula 2008).2]; decide
theorem wE_2408 : wE 2408 = 13821901200 := by rw [(w_formula 2408).2]; decide
theorem wS_2408 : wS 2408 = 13821753600 := by rw [(w_formula 2408).1]; decide

/-- the rule's verdict at the end instant of 2408 is "standard time" -/
theorem w_verdict (k : Option Bool) (hk : KindAt wS wE 2007 1199131200 13821901200 k) :
    k = some false := by
  have hI : IsK wS wE 2408 13821901200 false := Or.inr ⟨rfl, wE_2408.symm⟩
  match k with
  | none => exact absurd ⟨by decide, by decide⟩ (hk 2408 13821901200 false (by decide) hI)
  | some false => rfl
  | some true =>
    obtain ⟨y, a, _, _, _, hat, hu⟩ := hk
    have := hu 2408 13821901200 false (by decide) hI (by decide)
    exact absurd (this.2 (by omega)) (by decide)

theorem w_off0 : (typ wZone 0).utcOffset = 7200 := off_mkZone wTypes 0 _ 0
theorem w_off1 : (typ wZone 1).utcOffset = 0 := off_mkZone wTypes 0 _ 1

/-- … but the table answers with type 0 (+2 h) -/
theorem w_answer : (breakTime wZone 0 13821901200).val.1.offset = 7200 := by
  obtain ⟨gen, hl, hkeys⟩ := w_keys
  have hlast := last_time_eq wZone w_wf (fill wTypes 0 wRec) (by decide) wS wE 2 1 2007 w_chain gen hl
    hkeys (by rw [w_lastTime, show (2007 : Int) + 401 = 2408 by decide, wE_2408, wS_2408]; decide)
  rw [show (2007 : Int) + 401 = 2408 by decide, wE_2408, wS_2408,
    show max (13821753600 : Int) 13821901200 = 13821901200 by decide] at hlast
  obtain ⟨_, _, _, _, ho, _, _⟩ := C01.breakTime_shift wZone 0 13821901200 w_wf w_cols rfl
    (by rw [hlast]; decide)
  rw [hlast, show (13821901200 - ((13821901200 - 13821901200) / 12622780800 + 1) * 12622780800 : Int)
    = 1199120400 by decide] at ho
  rw [ho]
  -- at 2007-12-31 17:00:00 UTC the latest entry is the first recorded one
  have hfill : fill wTypes 0 wRec =
      [mkTrans 0 0 (offT wTypes 0) (offT wTypes 0), mkTrans 1199131200 1 (offT wTypes 1) (offT wTypes 0)] := rfl
  have hty : typeAt wZone 1199120400 = 0 := by
    apply typeAt_of_max wZone w_wf 1199120400 (mkTrans 0 0 (offT wTypes 0) (offT wTypes 0))
    · rw [hl, hfill]; simp
    · decide
    · intro x' hx' hx't
      rw [hl] at hx'
      rcases List.mem_append.1 hx' with h | h
      · rw [hfill] at h
        simp only [List.mem_cons, List.not_mem_nil, or_false] at h
        rcases h with h | h
        · rw [h]; exact Int.le_refl _
        · rw [h] at hx't
          exact absurd hx't (by decide)
      · obtain ⟨_, _, _, _, _, hL, _⟩ := gen_kind hkeys h
        rw [w_lastTime] at hL
        omega
  rw [offAt_typeAt, hty]
  exact w_off0

/-! ### the same table as a TZif file

A 199-byte TZif (version 2) file with the two recorded transitions above, the three types
(`AAA` +7200, `XST` 0, `XDT` +3600 dst) and the footer `XST0XDT,J1/` `-48,J2/` `-30` (written here
in two pieces so as not to open a comment).  `Tz.load {} wTzif` (evaluated with `#eval`, not in the
kernel) accepts it and gives a table of 803 entries (sentinel, 2 recorded, 800 generated; last entry
(13821901200, XST)); `breakTime` then answers offset 7200 / `AAA` for 13821901200 ≤ t < 13821912000
(2407-12-31 17:00:00 … 19:59:59 UTC) where the footer rule says `XST`, offset 0.  The C++ library
(`cctz::load_time_zone` on this file, `lookup`) gives the same answers. -/
def wTzif : List UInt8 := [
  84, 90, 105, 102, 50, 0, 0, 0, 0, 0, 0, 0, 0, 0, 0, 0, 0, 0, 0, 0, 0, 0, 0, 0,
  0, 0, 0, 0, 0, 0, 0, 0, 0, 0, 0, 2, 0, 0, 0, 3, 0, 0, 0, 12, 0, 0, 0, 0,
  71, 121, 74, 64, 0, 1, 0, 0, 28, 32, 0, 0, 0, 0, 0, 0, 0, 4, 0, 0, 14, 16, 1, 8,
  65, 65, 65, 0, 88, 83, 84, 0, 88, 68, 84, 0, 84, 90, 105, 102, 50, 0, 0, 0, 0, 0, 0, 0,
  0, 0, 0, 0, 0, 0, 0, 0, 0, 0, 0, 0, 0, 0, 0, 0, 0, 0, 0, 0, 0, 0, 0, 2,
  0, 0, 0, 3, 0, 0, 0, 12, 0, 0, 0, 0, 0, 0, 0, 0, 0, 0, 0, 0, 71, 121, 74, 64,
  0, 1, 0, 0, 28, 32, 0, 0, 0, 0, 0, 0, 0, 4, 0, 0, 14, 16, 1, 8, 65, 65, 65, 0,
  88, 83, 84, 0, 88, 68, 84, 0, 10, 88, 83, 84, 48, 88, 68, 84, 44, 74, 49, 47, 45, 52, 56, 44,
  74, 50, 47, 45, 51, 48, 10]

end Cctz.Rg
