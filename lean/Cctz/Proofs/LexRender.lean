/-
  C08Lex helper proofs: every library conversion of the model raises no flag and renders what
  `Lex.renderConv` says.
-/
import Cctz.Proofs.LexWeek

namespace Cctz.Lx
open Cctz Cctz.Bytes Cctz.Format Cctz.Spec Cctz.Spec.Lex Cctz.Fm Cctz.Wd

/-- what `format()` knows about its inputs -/
structure Env (al : Tz.AbsLookup) (tm : Tm) (t fs : Int) : Prop where
  valid : Valid al.cs
  year : inI64 al.cs.y
  off1 : -90000 < al.offset
  off2 : al.offset < 90000
  time : inI64 t
  fs0 : 0 ≤ fs
  fs1 : fs < 1000000000000000
  wday : tm.wday = Lex.wday al.cs

def Renders (al : Tz.AbsLookup) (t fs : Int) (pc : Ck Bytes) (c : Conv) : Prop :=
  pc.ok ∧ pc.val = renderConv c al t fs

theorem decNat_mul10 (n : Nat) (hn : 0 < n) : decNat (n * 10) = decNat n ++ [48] := by
  have := Nat.toDigits_append_toDigits (b := 10) (n := n) (d := 0) (by decide) hn (by decide)
  rw [Nat.toDigits_zero] at this
  simp only [decNat]
  rw [show n * 10 = 10 * n + 0 by omega, ← this, List.map_append]
  rfl

theorem decPad_mul10 (w n : Nat) (hw : 1 ≤ w) : decPad (w + 1) (n * 10) = decPad w n ++ [48] := by
  by_cases hn : n = 0
  · subst hn
    have : decNat 0 = [48] := by decide
    simp only [decPad, Nat.zero_mul, this, List.length_cons, List.length_nil]
    rw [show w + 1 - (0 + 1) = (w - (0 + 1)) + 1 by omega, List.replicate_succ']
  · simp only [decPad, decNat_mul10 n (by omega), List.length_append, List.length_cons, List.length_nil]
    rw [show w + 1 - ((decNat n).length + (0 + 1)) = w - (decNat n).length by omega, List.append_assoc]

theorem decPad_mul_pow (w n : Nat) (hw : 1 ≤ w) : ∀ j : Nat,
    decPad (w + j) (n * 10 ^ j) = decPad w n ++ List.replicate j 48 := by
  intro j
  induction j with
  | zero => simp
  | succ j ih =>
    rw [show w + (j + 1) = (w + j) + 1 by omega, Nat.pow_succ, ← Nat.mul_assoc,
      decPad_mul10 _ _ (by omega), ih, List.append_assoc, List.replicate_succ']

theorem format02d_piece (v : Int) (h0 : 0 ≤ v) (h1 : v ≤ 99) :
    (format02d v >>= scratch).ok ∧ (format02d v >>= scratch).val = decPad 2 v.toNat :=
  ⟨format02d_scratch_ok v h0 h1, by rw [Ck.bindv, scratch_val, (format02d_spec v h0 h1).2]⟩

/-- a 64-bit number in a field of width at most 20 fits the scratch buffer -/
theorem format64_piece (w v : Int) (hv : inI64 v) (hw : w ≤ 20) :
    (scratch (format64 w v)).ok ∧ (scratch (format64 w v)).val = format64 w v := by
  have := format64_length_le w v 19 (by decide) (natAbs_lt_of_inI64 v hv) (by omega)
  exact ⟨(scratch_ok _).2 (by omega), scratch_val _⟩

theorem e_table : (List.range 100).all (fun n => decide (
    (if (decPad 2 n).headD 0 = 48 then 32 :: (decPad 2 n).drop 1 else decPad 2 n) =
      (if n < 10 then 32 :: decNat n else decNat n))) = true := by decide +kernel

theorem e_piece (d : Int) (h0 : 0 ≤ d) (h1 : d ≤ 99) :
    (format02d d >>= fun b => scratch (if b.headD 0 = 48 then 32 :: b.drop 1 else b)).ok ∧
    (format02d d >>= fun b => scratch (if b.headD 0 = 48 then 32 :: b.drop 1 else b)).val =
      (if d < 10 then 32 :: decNat d.toNat else decNat d.toNat) := by
  refine ⟨(Ck.bind_ok _ _).2 ⟨(format02d_spec _ h0 h1).1, (scratch_ok _).2 ?_⟩, ?_⟩
  · have := format02d_length d
    split
    · simp only [List.length_cons, List.length_drop]; omega
    · omega
  rw [Ck.bindv, scratch_val, (format02d_spec d h0 h1).2]
  have h := e_table
  rw [List.all_eq_true] at h
  have := h d.toNat (by simp; omega)
  rw [decide_eq_true_iff] at this
  rw [this]
  by_cases hd : d < 10
  · rw [if_pos hd, if_pos (by omega)]
  · rw [if_neg hd, if_neg (by omega)]

/-- `%U` (`ws` = Sunday) and `%W` (Monday): `x` is the weekday counted from `ws` -/
theorem week_piece (cs : Fields) (ws : Int) (x : Int) (hv : Valid cs) (hw0 : 0 ≤ ws) (hw6 : ws ≤ 6)
    (hx : (weekdayOfDay (dayNum cs.y cs.m cs.d) - ws) % 7 = x) :
    (toWeek cs ws >>= fun w => format02d w >>= scratch).ok ∧
    (toWeek cs ws >>= fun w => format02d w >>= scratch).val = decPad 2 ((Lex.yday cs + 7 - x) / 7).toNat := by
  obtain ⟨h1, h2⟩ := toWeek_spec cs ws hv hw0 hw6
  have := yday_range cs hv
  obtain ⟨p1, p2⟩ := format02d_piece ((Lex.yday cs + 7 - x) / 7) (by omega) (by omega)
  rw [Ck.bind_ok, Ck.bindv, h2, hx]
  exact ⟨⟨h1, p1⟩, p2⟩

theorem format64_nat (v : Int) (h : 0 ≤ v) : format64 0 v = decNat v.toNat := by
  rw [format64_zero, decInt, if_neg (by omega)]
  congr 1; omega

theorem offset_piece (off : Int) (mode : Bytes) (h1 : -90000 < off) (h2 : off < 90000) :
    (formatOffset off mode).ok ∧ (scratch (formatOffset off mode).val).ok :=
  ⟨formatOffset_ok off mode h1 h2,
    (scratch_ok _).2 (Nat.le_trans (formatOffset_length off mode) (by decide))⟩

theorem simplePiece_nul (al : Tz.AbsLookup) (tm : Tm) (t : Int) : (simplePiece al tm t 0).val = [] := rfl

theorem simplePiece_renders {al : Tz.AbsLookup} {tm : Tm} {t fs : Int} (E : Env al tm t fs) (c : UInt8)
    (hc : c = 0 ∨ c ∈ simpleSet) :
    Renders al t fs (simplePiece al tm t c) (if c = 0 then .nul else .simple c) := by
  obtain ⟨hm1, hm2, hd1, hd2, hh1, hh2, hmm1, hmm2, hs1, hs2⟩ := E.valid
  have hdb := daysInMonth_pos al.cs.y al.cs.m
  have hw := wday_range al.cs
  have hwd := E.wday
  simp only [simpleSet, List.mem_cons, List.mem_nil_iff, or_false] at hc
  rcases hc with h | h | h | h | h | h | h | h | h | h | h | h | h | h | h <;> subst h
  · exact ⟨rfl, rfl⟩
  · exact (format64_piece 0 _ E.year (by decide)).imp_right fun h => h.trans (format64_zero _)
  · exact format02d_piece _ (by omega) (by omega)
  · exact format02d_piece _ (by omega) (by omega)
  · exact e_piece _ (by omega) (by omega)
  · exact week_piece _ 6 _ E.valid (by decide) (by decide) (by simp only [Lex.wday, weekdayOfDay]; omega)
  · show (scratch (format64 0 (if tm.wday ≠ 0 then tm.wday else 7))).ok ∧
      (scratch (format64 0 (if tm.wday ≠ 0 then tm.wday else 7))).val =
        decNat (if Lex.wday al.cs = 0 then 7 else Lex.wday al.cs).toNat
    rw [hwd, show (if Lex.wday al.cs ≠ 0 then Lex.wday al.cs else 7) =
      (if Lex.wday al.cs = 0 then 7 else Lex.wday al.cs) by split <;> simp_all]
    have h7 : 0 ≤ (if Lex.wday al.cs = 0 then 7 else Lex.wday al.cs) ∧
        (if Lex.wday al.cs = 0 then 7 else Lex.wday al.cs) ≤ 7 := by split <;> omega
    exact (format64_piece 0 _ (inI64_small _ (by omega) (by omega)) (by decide)).imp_right
      fun h => h.trans (format64_nat _ h7.1)
  · exact week_piece _ 0 _ E.valid (by decide) (by decide) (by simp only [Lex.wday, weekdayOfDay]; omega)
  · show (scratch (format64 0 tm.wday)).ok ∧ (scratch (format64 0 tm.wday)).val = decNat (Lex.wday al.cs).toNat
    rw [hwd]
    exact (format64_piece 0 _ (inI64_small _ (by omega) (by omega)) (by decide)).imp_right
      fun h => h.trans (format64_nat _ hw.1)
  · exact format02d_piece _ (by omega) (by omega)
  · exact format02d_piece _ (by omega) (by omega)
  · exact format02d_piece _ (by omega) (by omega)
  · obtain ⟨p1, p2⟩ := offset_piece al.offset [] E.off1 E.off2
    refine ⟨(Ck.bind_ok _ _).2 ⟨p1, p2⟩, ?_⟩
    show (formatOffset al.offset [] >>= scratch).val = offHM false al.offset
    rw [Ck.bindv, scratch_val]
    exact (formatOffset_val _ E.off1 E.off2).1
  · exact ⟨rfl, rfl⟩
  · exact (format64_piece 0 _ E.time (by decide)).imp_right fun h => h.trans (format64_zero _)

theorem star_piece {al : Tz.AbsLookup} {tm : Tm} {t fs : Int} (E : Env al tm t fs) (P : Prop) [Decidable P] :
    (starPiece al fs P).ok ∧ (scratch (format64 15 fs ++ [46, 48, 48])).ok ∧
    (starPiece al fs P).val = renderConv (if P then .eStarS else .eStarF) al t fs := by
  obtain ⟨_, _, _, _, _, _, _, _, hs1, hs2⟩ := E.valid
  have h15 : format64 15 fs = decPad 15 fs.toNat := format64_nonneg 15 fs E.fs0
  have h02 := format02d_spec _ hs1 (Int.le_trans hs2 (by decide))
  refine ⟨?_, ?_, ?_⟩
  · unfold starPiece
    exact Ck.ok_ite (fun _ => (Ck.bind_ok _ _).2 ⟨h02.1, Ck.pure_ok _⟩) (fun _ => Ck.pure_ok _)
  · apply (scratch_ok _).2
    rw [List.length_append, h15, decPad_length_of_lt 15 _ (by decide) (by have := E.fs1; omega)]
    decide
  · by_cases h : P
    · rw [if_pos h, starPiece_S _ _ _ h, starS_val al fs E.fs0, h02.2]
      rfl
    · unfold starPiece
      rw [if_neg h, if_neg h, Ck.pure_val, h15]
      show (if (fracStar fs).isEmpty then [48] else fracStar fs) = if fracStar fs = [] then [48] else fracStar fs
      generalize fracStar fs = z
      cases z <;> rfl

theorem exp10_table : (List.range 19).all (fun i =>
    decide ((getC Gen.kExp10 (i : Int) 1).val = ((10 ^ i : Nat) : Int))) = true := by decide +kernel

theorem exp10 (i : Nat) (h : i ≤ 18) :
    (getC Gen.kExp10 (i : Int) 1).ok ∧ (getC Gen.kExp10 (i : Int) 1).val = ((10 ^ i : Nat) : Int) := by
  refine ⟨(getC_ok _ _ _).2 ⟨by omega, by show (i : Int) < (19 : Nat); omega⟩, ?_⟩
  have := exp10_table
  rw [List.all_eq_true] at this
  have := this i (by simp; omega)
  rwa [decide_eq_true_iff] at this

theorem fracDigits_val (fs : Int) (h0 : 0 ≤ fs) (n' : Nat) (hn1 : 1 ≤ n') (hn2 : n' ≤ 18) :
    format64 (n' : Int) (if (n' : Int) > 15 then (do
          let k ← getC Gen.kExp10 ((n' : Int) - 15) 1
          chk64 (fs * k))
        else (do
          let k ← getC Gen.kExp10 (15 - (n' : Int)) 1
          pure (cdiv fs k)) : Ck Int).val =
      (if n' ≤ 15 then fracDigits n' fs else decPad 15 fs.toNat ++ List.replicate (n' - 15) 48) := by
  by_cases h : n' ≤ 15
  · rw [if_neg (by omega), if_pos h, Ck.bindv, Ck.pure_val,
      show (15 - (n' : Int)) = ((15 - n' : Nat) : Int) by omega, (exp10 _ (by omega)).2]
    have hp : (0 : Int) < ((10 ^ (15 - n') : Nat) : Int) :=
      Int.natCast_pos.2 (Nat.pow_pos (by decide))
    rw [cdiv_of_nonneg _ h0, format64_nonneg _ _ (Int.ediv_nonneg h0 (Int.le_of_lt hp))]
    unfold fracDigits
    congr 1
    have : fs = ((fs.toNat : Nat) : Int) := by omega
    rw [this, ← Int.natCast_ediv, Int.toNat_natCast, Int.toNat_natCast]
  · rw [if_pos (by omega), if_neg h, Ck.bindv, chk64_val,
      show ((n' : Int) - 15) = ((n' - 15 : Nat) : Int) by omega, (exp10 _ (by omega)).2]
    have hnn : 0 ≤ fs * ((10 ^ (n' - 15) : Nat) : Int) :=
      Int.mul_nonneg h0 (Int.le_of_lt (Int.natCast_pos.2 (Nat.pow_pos (by decide))))
    rw [format64_nonneg _ _ hnn]
    have : (fs * ((10 ^ (n' - 15) : Nat) : Int)).toNat = fs.toNat * 10 ^ (n' - 15) := by
      have : fs = ((fs.toNat : Nat) : Int) := by omega
      rw [this, ← Int.natCast_mul, Int.toNat_natCast, Int.toNat_natCast]
    rw [this]
    have := decPad_mul_pow 15 fs.toNat (by decide) (n' - 15)
    rw [show 15 + (n' - 15) = n' by omega] at this
    exact this

theorem fracPiece_val (fs : Int) (h0 : 0 ≤ fs) (n : Nat) (x : UInt8) :
    (fracPiece fs (n : Int) x).val =
      if n = 0 then [] else (if x = 83 then 46 :: frac n fs else frac n fs) := by
  unfold fracPiece
  by_cases hn : n = 0
  · subst hn; simp
  · rw [if_pos (by omega), if_neg hn]
    have hmin : (if (n : Int) > Gen.kDigits10_64 then Gen.kDigits10_64 else (n : Int)) = ((min n 18 : Nat) : Int) := by
      unfold Gen.kDigits10_64; split <;> omega
    simp only [hmin, Ck.bindv, Ck.pure_val]
    have := fracDigits_val fs h0 (min n 18) (by omega) (by omega)
    unfold frac
    rw [← this]

theorem frac_length (n : Nat) (fs : Int) (hn : 1 ≤ n) (h0 : 0 ≤ fs) (h1 : fs < 1000000000000000) :
    (frac n fs).length ≤ 18 := by
  unfold frac
  dsimp only
  split
  · next h =>
    unfold fracDigits
    rw [decPad_length_of_lt _ _ (by omega)]
    · omega
    · apply Nat.div_lt_of_lt_mul
      rw [← Nat.pow_add, show 15 - min n 18 + min n 18 = 15 by omega]
      omega
  · rw [List.length_append, List.length_replicate, decPad_length_of_lt 15 _ (by decide) (by omega)]
    omega

theorem fracPiece_ok (fs : Int) (h0 : 0 ≤ fs) (h1 : fs < 1000000000000000) (n : Nat) (x : UInt8) :
    (fracPiece fs (n : Int) x).ok := by
  unfold fracPiece
  refine Ck.ok_ite (fun hn => ?_) (fun _ => Ck.pure_ok _)
  have hmin : (if (n : Int) > Gen.kDigits10_64 then Gen.kDigits10_64 else (n : Int)) = ((min n 18 : Nat) : Int) := by
    unfold Gen.kDigits10_64; split <;> omega
  rw [hmin]
  refine (Ck.bind_ok _ _).2 ⟨?_, Ck.pure_ok _⟩
  refine Ck.ok_ite (fun h15 => ?_) (fun h15 => ?_)
  · obtain ⟨kok, kval⟩ := exp10 (min n 18 - 15) (by omega)
    rw [show ((min n 18 : Nat) : Int) - 15 = ((min n 18 - 15 : Nat) : Int) by omega]
    refine (Ck.bind_ok _ _).2 ⟨kok, (chk64_ok _).2 ?_⟩
    rw [kval]
    have hk : ((10 ^ (min n 18 - 15) : Nat) : Int) ≤ 1000 :=
      Int.ofNat_le.2 (Nat.pow_le_pow_right (by decide) (show min n 18 - 15 ≤ 3 by omega))
    have a1 : 0 ≤ fs * ((10 ^ (min n 18 - 15) : Nat) : Int) := Int.mul_nonneg h0 (Int.natCast_nonneg _)
    have a2 : fs * ((10 ^ (min n 18 - 15) : Nat) : Int) ≤ fs * 1000 := Int.mul_le_mul_of_nonneg_left hk h0
    unfold inI64 i64min i64max
    omega
  · rw [show 15 - ((min n 18 : Nat) : Int) = ((15 - min n 18 : Nat) : Int) by omega]
    exact (Ck.bind_ok _ _).2 ⟨(exp10 _ (by omega)).1, Ck.pure_ok _⟩

/-- `%E<n>S` (`x = 83`) and `%E<n>f`: the fraction, the piece built from it, and the scratch buffer -/
theorem dig_piece {al : Tz.AbsLookup} {tm : Tm} {t fs : Int} (E : Env al tm t fs) (n : Nat) (x : UInt8)
    (pc : Ck Bytes) (hpc : pc = if x = 83 then do let s ← format02d al.cs.ss; pure (s ++ (fracPiece fs (n : Int) x).val)
      else pure (fracPiece fs (n : Int) x).val) :
    (fracPiece fs (n : Int) x).ok ∧ pc.ok ∧ (scratch pc.val).ok ∧
      pc.val = renderConv (if x = 83 then .eDigS n else .eDigF n) al t fs := by
  subst hpc
  obtain ⟨_, _, _, _, _, _, _, _, hs1, hs2⟩ := E.valid
  have h02 := format02d_spec _ hs1 (Int.le_trans hs2 (by decide))
  have hv := fracPiece_val fs E.fs0 n x
  have hl : n ≠ 0 → (frac n fs).length ≤ 18 := fun h => frac_length n fs (by omega) E.fs0 E.fs1
  refine ⟨fracPiece_ok fs E.fs0 E.fs1 n x, ?_⟩
  rw [hv]
  by_cases h83 : x = 83
  · simp only [if_pos h83]
    refine ⟨(Ck.bind_ok _ _).2 ⟨h02.1, Ck.pure_ok _⟩, (scratch_ok _).2 ?_, ?_⟩
    · rw [Ck.bindv, Ck.pure_val, List.length_append, format02d_length]
      split
      · decide
      · next hn => have := hl hn; simp only [List.length_cons]; omega
    · rw [Ck.bindv, Ck.pure_val, h02.2]; rfl
  · simp only [if_neg h83]
    refine ⟨Ck.pure_ok _, (scratch_ok _).2 ?_, rfl⟩
    rw [Ck.pure_val]
    split
    · decide
    · next hn => have := hl hn; omega

end Cctz.Lx
