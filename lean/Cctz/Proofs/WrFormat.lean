/-
  C07Whole helper proofs, format side: the `%E*f` and `%E<n>f` iterations of `formatLoop`, and the
  text of "%Y-%m-%d%ET%H:%M:%E*S%E*z" in the renderers' terms and in the documented ones.
-/
import Cctz.Proofs.FmRender
import Cctz.Proofs.FmLoop
import Cctz.Proofs.FmLiteral
import Cctz.Proofs.PaSub
import Cctz.Proofs.LexWidth
import Cctz.Proofs.LexRender
import Cctz.Proofs.RtClassNum

namespace Cctz.Wr
open Cctz Cctz.Bytes Cctz.Format Cctz.Wd Cctz.Spec Cctz.Fm

/-! ### more branches of `eTail` -/

theorem eTail_Estarf (fmt : Array UInt8) (al : Tz.AbsLookup) (tm : Tm) (t fs : Int) (fuel : Nat)
    (out2 : List Seg) (pending2 cur2 : Nat)
    (h1 : chAt fmt cur2 = 69) (h2 : cur2 + 1 ≠ fmt.size) (h3 : chAt fmt (cur2 + 1) = 42)
    (h4 : cur2 + 1 + 1 ≠ fmt.size) (h5 : chAt fmt (cur2 + 1 + 1) = 102) :
    eTail fmt al tm t fs fuel out2 pending2 cur2 =
      starPiece al fs (chAt fmt (cur2 + 1 + 1) = 83) >>= fun piece =>
      scratch (format64 15 fs ++ [46, 48, 48]) >>= fun _ =>
      formatLoop fmt al tm t fs fuel
        { out := flushTo fmt pending2 (cur2 + 1 - 2) out2 ++ [.lit piece], pending := cur2 + 1 + 2, cur := cur2 + 1 + 2 } := by
  unfold eTail
  rw [if_neg (by rw [h1]; simp [h2])]
  dsimp only
  rw [h3, if_neg (by decide), if_neg (by decide),
    if_neg (by rw [h5]; simp), if_pos ⟨rfl, h4, Or.inr h5⟩]
  rfl

/-- `%E*f`: the fraction with trailing zeros removed, "0" when nothing is left -/
def starF (fs : Int) : Bytes :=
  if ((format64 15 fs).reverse.dropWhile (· = 48)).reverse.isEmpty then [48]
  else ((format64 15 fs).reverse.dropWhile (· = 48)).reverse

theorem starPiece_f (al : Tz.AbsLookup) (fs : Int) (P : Prop) [Decidable P] (h : ¬ P) :
    starPiece al fs P = pure (starF fs) := by
  unfold starF starPiece
  rw [if_neg h]

theorem loop_pct_Estarf (fmt : Array UInt8) (al : Tz.AbsLookup) (tm : Tm) (t fs : Int) (fuel : Nat)
    (out : List Seg) (p : Nat) (h0 : p + 3 < fmt.size) (h1 : chAt fmt p = 37)
    (h2 : chAt fmt (p + 1) = 69) (h3 : chAt fmt (p + 1 + 1) = 42) (h4 : chAt fmt (p + 1 + 1 + 1) = 102) :
    formatLoop fmt al tm t fs (fuel + 1) { out := out, pending := p, cur := p } =
      (pure (starF fs) : Ck Bytes) >>= fun piece =>
      scratch (format64 15 fs ++ [46, 48, 48]) >>= fun _ =>
      formatLoop fmt al tm t fs fuel
        { out := out ++ [Seg.lit []] ++ [.lit piece], pending := p + 4, cur := p + 4 } := by
  rw [loop_step _ _ _ _ _ _ _ _ _ _ _ (show p ≠ fmt.size by omega)
      (prep_pct fmt out p (by omega) h1 (by rw [h2]; decide)),
    specTail_E _ _ _ _ _ _ _ _ _ _ (by omega) h2,
    eTail_Estarf _ _ _ _ _ _ _ _ _ h2 (by omega) h3 (by omega) h4,
    starPiece_f _ _ _ (by rw [h4]; decide)]
  simp only [show p + 1 + 1 - 2 = p by omega, flushTo_self]

/-! ### `%E*f` -/

theorem starf_ofString : ofString "%E*f" = [37, 69, 42, 102] := by decide +kernel

theorem starF_val (fs : Int) (h0 : 0 ≤ fs) : starF fs = if fracStar fs = [] then [48] else fracStar fs := by
  have h15 : format64 15 fs = decPad 15 fs.toNat := format64_nonneg 15 fs h0
  unfold starF fracStar
  rw [h15]
  simp only [List.isEmpty_iff]

theorem starf_render (al : Tz.AbsLookup) (t fs : Int) (h0 : 0 ≤ fs) :
    render (fun _ _ => []) (formatSegs (ofString "%E*f") al t fs).val.1 (formatSegs (ofString "%E*f") al t fs).val.2
      = (if fracStar fs = [] then [48] else fracStar fs) := by
  rw [starf_ofString, formatSegs_val]
  show render _ _ (formatLoop ([37, 69, 42, 102] : Bytes).toArray al _ t fs 6 {}).val = _
  rw [loop_pct_Estarf _ al _ t fs 5 [] 0 (by decide) (by decide) (by decide) (by decide) (by decide),
    Ck.bindv, Ck.bindv, Ck.pure_val,
    loop_done' _ al _ t fs 4 _ _ (by decide), Ck.pure_val]
  simp only [render, List.nil_append, List.cons_append, List.flatMap_cons, List.flatMap_nil, List.append_nil]
  exact starF_val fs h0

/-! ### `%E<n>f` -/

theorem digit_ne (e c : UInt8) (hd : isDigit e = true) (hc : isDigit c = false) : e ≠ c := by
  intro h; rw [h, hc] at hd; cases hd

theorem eTail_Enf (fmt : Array UInt8) (al : Tz.AbsLookup) (tm : Tm) (t fs : Int) (fuel : Nat)
    (out2 : List Seg) (pending2 cur2 : Nat) (n : Int) (np : Nat)
    (h1 : chAt fmt cur2 = 69) (h2 : cur2 + 1 ≠ fmt.size) (hd : isDigit (chAt fmt (cur2 + 1)) = true)
    (h4 : ¬ (chAt fmt (cur2 + 1) = 52 ∧ cur2 + 1 + 1 ≠ fmt.size ∧ chAt fmt (cur2 + 1 + 1) = 89))
    (hw : parseWidth fmt (cur2 + 1) = some (n, np)) (hx : chAt fmt np = 102) :
    eTail fmt al tm t fs fuel out2 pending2 cur2 =
      fracPiece fs n 102 >>= fun frac => scratch frac >>= fun piece =>
      formatLoop fmt al tm t fs fuel
        { out := flushTo fmt pending2 (cur2 + 1 - 2) out2 ++ [.lit piece], pending := np + 1, cur := np + 1 } := by
  unfold eTail
  rw [if_neg (by rw [h1]; simp [h2])]
  dsimp only
  rw [if_neg (digit_ne _ 84 hd (by decide)), if_neg (digit_ne _ 122 hd (by decide)),
    if_neg (fun h => digit_ne _ 42 hd (by decide) h.1), if_neg (fun h => digit_ne _ 42 hd (by decide) h.1),
    if_neg h4, if_pos hd, hw]
  dsimp only
  rw [hx, if_pos (Or.inr rfl)]
  simp only [show ((102 : UInt8) = 83) = False from eq_false (by decide), if_false]
  rfl

/-- `%E<n>f` for every width the library reads itself (n ≤ 1024): the digits `Lex.frac n fs` — the
first `n` of the fraction for n ≤ 15, padded with zeros up to 18 beyond -/
theorem Enf_render (n : Nat) (al : Tz.AbsLookup) (t fs : Int) (hn1 : 1 ≤ n) (hn : n ≤ 1024) (h0 : 0 ≤ fs) :
    render (fun _ _ => []) (formatSegs ([37, 69] ++ decNat n ++ [102]) al t fs).val.1
      (formatSegs ([37, 69] ++ decNat n ++ [102]) al t fs).val.2 = Spec.Lex.frac n fs := by
  have hds := Pa.decNat_digits n
  have hval := Rtc.digitsVal_decNat n
  obtain ⟨c, tl, e⟩ := List.exists_cons_of_ne_nil (Pa.decNat_ne_nil n)
  generalize decNat n = ds at hds hval e
  have hc : isDigit c = true := hds c (by rw [e]; simp)
  have hL : [37, 69] ++ ds ++ [102] = 37 :: 69 :: (ds ++ [102]) := rfl
  generalize hLd : 37 :: 69 :: (ds ++ [102]) = L at hL
  have hlen : L.length = ds.length + 3 := by rw [← hLd]; simp
  have c0 : chAt L.toArray 0 = 37 := by rw [← hLd]; rfl
  have c1 : chAt L.toArray (0 + 1) = 69 := by rw [← hLd]; rfl
  have c2 : chAt L.toArray (0 + 1 + 1) = c := by rw [← hLd, e]; rfl
  have c3 : chAt L.toArray (0 + 1 + 1 + 1) ≠ 89 := by
    rw [← hLd, e]
    cases tl with
    | nil => exact fun h => absurd (show (102 : UInt8) = 89 from h) (by decide)
    | cons c' tl' => exact fun h => by have := hds c' (by rw [e]; simp); rw [show c' = 89 from h] at this; cases this
  have htw : (L.toArray.toList.drop (0 + 1 + 1)).takeWhile isDigit = ds := by
    rw [← hLd]
    exact (Pa.takeWhile_append_of_all (p := isDigit) ds [102] hds (by decide)).1
  have hw : parseWidth L.toArray (0 + 1 + 1) = some ((n : Int), 2 + ds.length) := by
    rw [Lx.parseWidth_spec _ _ (by show 2 ≤ L.length; omega), htw, hval,
      if_pos ⟨by rw [e]; exact List.cons_ne_nil _ _, hn⟩]
  have hx : chAt L.toArray (2 + ds.length) = 102 := by
    rw [chAt_toArray, ← hLd, Nat.add_comm]
    simp
  rw [hL, formatSegs_val]
  show render _ _ (formatLoop L.toArray al _ t fs (L.length + 2) {}).val = _
  rw [loop_step _ al _ t fs (L.length + 1) _ _ _ _ _ (show (0 : Nat) ≠ L.toArray.size by show 0 ≠ L.length; omega)
      (prep_pct L.toArray [] 0 (by show 0 + 1 < L.length; omega) c0 (by rw [c1]; decide)),
    specTail_E _ _ _ _ _ _ _ _ _ _ (by show ¬ (0 + 1 = L.length ∨ _); omega) c1,
    eTail_Enf _ _ _ _ _ _ _ _ _ _ _ c1 (by show 0 + 1 + 1 ≠ L.length; omega) (by rw [c2]; exact hc)
      (fun h => c3 h.2.2) hw hx,
    Ck.bindv, Ck.bindv, scratch_val, Lx.fracPiece_val fs h0 n 102, if_neg (by omega), if_neg (by decide),
    loop_done' _ al _ t fs L.length _ _ (by show 2 + ds.length + 1 = L.length; omega), Ck.pure_val]
  simp only [show 0 + 1 + 1 - 2 = 0 by omega, flushTo_self]
  simp only [render, List.nil_append, List.cons_append, List.flatMap_cons, List.flatMap_nil, List.append_nil]

/-! ### the format "%Y-%m-%d%ET%H:%M:%E*S%E*z" -/

/-- the text `format` writes, piece by piece in the renderers' own terms (the form the parse side
reads back) -/
def fullText (al : Tz.AbsLookup) (fs : Int) : Bytes :=
  format64 0 al.cs.y ++ (45 :: ((format02d al.cs.m).val ++ (45 :: ((format02d al.cs.d).val ++ (84 ::
    ((format02d al.cs.hh).val ++ (58 :: ((format02d al.cs.mm).val ++ (58 :: ((format02d al.cs.ss).val ++
      ((if fracStar fs = [] then [] else 46 :: fracStar fs) ++ (formatOffset al.offset [58, 42]).val)))))))))))

/-- the same text in the documented renderings -/
theorem fullText_spec (al : Tz.AbsLookup) (fs : Int) (hv : Valid al.cs)
    (ho1 : -90000 < al.offset) (ho2 : al.offset < 90000) :
    fullText al fs =
      decInt al.cs.y ++ [45] ++ decPad 2 al.cs.m.toNat ++ [45] ++ decPad 2 al.cs.d.toNat ++ [84] ++
      decPad 2 al.cs.hh.toNat ++ [58] ++ decPad 2 al.cs.mm.toNat ++ [58] ++ decPad 2 al.cs.ss.toNat ++
      (if fracStar fs = [] then [] else 46 :: fracStar fs) ++ offHMS al.offset := by
  obtain ⟨hm1, hm2, hd1, hd2, hh1, hh2, hmm1, hmm2, hs1, hs2⟩ := hv
  have hdb := daysInMonth_pos al.cs.y al.cs.m
  unfold fullText
  rw [format64_zero, (format02d_spec _ (by omega) (by omega)).2, (format02d_spec _ (by omega) (by omega)).2,
    (format02d_spec _ hh1 (by omega)).2, (format02d_spec _ hmm1 (by omega)).2,
    (format02d_spec _ hs1 (by omega)).2, (formatOffset_val _ ho1 ho2).2.2.1]
  simp only [List.append_assoc, List.cons_append, List.nil_append]

end Cctz.Wr
