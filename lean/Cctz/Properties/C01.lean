/-
  C01 — Instant → civil conversion follows the zone's data (table level).
  What is proved here: for every table with the facts Load establishes (`TableWF`, `CivilCols`),
  every instant, every hint: lookup reports the type of the latest table entry at or before t (the
  default type before the first), and the civil second is the UTC civil second of t shifted by that
  offset; beyond an extended table the answer is the table's answer 400·s years earlier moved
  forward by exactly 400·s years.  That `load` establishes `CivilCols` is in
  Properties/C12Tables.lean; that the rule-generated part of the table is the POSIX rule evaluated
  on the calendar is in Properties/C01Rule.lean.
-/
import Cctz.Model.Tz
import Cctz.Spec.TableSem
import Cctz.Proofs.TableLookup
import Cctz.Proofs.TlFixed

namespace Cctz.C01
open Cctz Cctz.Tz Cctz.Spec

/-- lookup(t) inside the table (or beyond a table that is not extended) -/
def breakTime_table_statement : Prop :=
  ∀ (z : Zone) (h : Nat) (t : Int), TableWF z → CivilCols z →
    (z.extended = false ∨ t < timeOf z (z.transitions.size - 1)) →
    let a := (breakTime z h t).val.1
    Valid a.cs ∧ secNum a.cs = t + offAt z t ∧ a.offset = offAt z t ∧
    a.isDst = (typ z (typeAt z t)).isDst ∧
    a.abbr = abbrAt z.abbreviations (typ z (typeAt z t)).abbrIndex

/-- lookup(t) beyond an extended table: `s = ⌊(t - last)/k400⌋ + 1` whole 400-year cycles are
removed, the table is consulted, and exactly `s · 146097` days are added back -/
def breakTime_shift_statement : Prop :=
  ∀ (z : Zone) (h : Nat) (t : Int), TableWF z → CivilCols z → z.extended = true →
    timeOf z (z.transitions.size - 1) ≤ t →
    let s := (t - timeOf z (z.transitions.size - 1)) / 12622780800 + 1
    let t' := t - s * 12622780800
    let a := (breakTime z h t).val.1
    t' < timeOf z (z.transitions.size - 1) ∧ timeOf z (z.transitions.size - 1) - 12622780800 ≤ t' ∧
    Valid a.cs ∧ secNum a.cs = t + offAt z t' ∧ a.offset = offAt z t' ∧
    a.isDst = (typ z (typeAt z t')).isDst ∧ a.abbr = abbrAt z.abbreviations (typ z (typeAt z t')).abbrIndex

/-- the built-in fixed-offset table (C15): every type is the one fixed type, so lookup reports
exactly `off`, no DST and the numeric abbreviation at every instant, for every hint -/
def fixed_lookup_statement : Prop :=
  ∀ (off : Int) (h : Nat) (t : Int), -86400 ≤ off → off ≤ 86400 →
    let z := (resetToBuiltinUTC off).val
    let a := (breakTime z h t).val.1
    Valid a.cs ∧ secNum a.cs = t + off ∧ a.offset = off ∧ a.isDst = false ∧
    a.abbr = Bytes.cstr (Fixed.toAbbr off).val

/-- … and that table has the facts the theorems above assume -/
def fixed_table_statement : Prop :=
  ∀ off : Int, -86400 ≤ off → off ≤ 86400 →
    TableWF (resetToBuiltinUTC off).val ∧ CivilCols (resetToBuiltinUTC off).val ∧
    (resetToBuiltinUTC off).val.extended = false

theorem breakTime_table : breakTime_table_statement := by
  intro z h t wf cc hc
  show Tl.LookupAt z t (breakTime z h t).val.1
  rw [Tl.breakTime_noshift z h t hc]
  exact Tl.breakTimeCore_spec z wf cc h t

theorem breakTime_shift : breakTime_shift_statement := by
  intro z h t wf cc hext hlast
  have hn := wf.nonempty
  have hfirst : ¬ t < timeOf z 0 := by
    by_cases e : z.transitions.size - 1 = 0
    · rw [e] at hlast; omega
    · have := wf.timeSorted 0 (z.transitions.size - 1) (by omega) (by omega)
      unfold timeOf at *; omega
  have hts : Tl.TakesShift z t := ⟨hfirst, hlast, hext⟩
  have hd : cdiv (t - timeOf z (z.transitions.size - 1)) Gen.kSecsPer400Years + 1 =
      (t - timeOf z (z.transitions.size - 1)) / 12622780800 + 1 := by
    show cdiv _ 12622780800 + 1 = _
    rw [cdiv_eq, if_pos (by omega)]
  have hv := Tl.breakTime_val z h t
  rw [if_pos hts] at hv
  simp only [hd] at hv
  show _ ∧ _ ∧ Valid (breakTime z h t).val.1.cs ∧ secNum (breakTime z h t).val.1.cs = _ ∧
    (breakTime z h t).val.1.offset = _ ∧ (breakTime z h t).val.1.isDst = _ ∧
    (breakTime z h t).val.1.abbr = _
  rw [hv]
  have hk : Gen.kSecsPer400Years = 12622780800 := rfl
  rw [hk]
  obtain ⟨v, sn, o, dst, ab⟩ := Tl.breakTimeCore_spec z wf cc h
    (t - ((t - timeOf z (z.transitions.size - 1)) / 12622780800 + 1) * 12622780800)
  obtain ⟨v', sn'⟩ := Tl.yearShift_spec _ v ((t - timeOf z (z.transitions.size - 1)) / 12622780800 + 1)
  refine ⟨by omega, by omega, v', ?_, o, dst, ab⟩
  show secNum (yearShift _ _).val = _
  rw [sn', sn]; omega

theorem fixed_table : fixed_table_statement := by
  intro off _ _
  rw [Tl.reset_val]
  exact ⟨Tl.fixed_wf off, Tl.fixed_cols off, rfl⟩

theorem fixed_lookup : fixed_lookup_statement := by
  intro off h t _ _
  show Valid (breakTime (resetToBuiltinUTC off).val h t).val.1.cs ∧ _
  rw [Tl.reset_val]
  obtain ⟨v, sn, o, dst, ab⟩ :=
    breakTime_table (Tl.fixedZone off) h t (Tl.fixed_wf off) (Tl.fixed_cols off) (Or.inl rfl)
  have ho : offAt (Tl.fixedZone off) t = off := by
    unfold offAt; rw [Tl.fixed_typeAt]; rfl
  rw [Tl.fixed_typeAt] at dst ab
  rw [ho] at sn o
  exact ⟨v, sn, o, dst, by rw [ab, Tl.fixed_abbr]⟩

/-- the hypotheses of the table theorems are satisfiable on a non-trivial table: the built-in
UTC+1 table (12 entries) and an instant inside it -/
example : TableWF (resetToBuiltinUTC 3600).val ∧ CivilCols (resetToBuiltinUTC 3600).val ∧
    (resetToBuiltinUTC 3600).val.extended = false := fixed_table 3600 (by decide) (by decide)

/-- … and the shift theorem's on a two-entry extended table -/
example : ∃ z : Zone, TableWF z ∧ CivilCols z ∧ z.extended = true ∧
    timeOf z (z.transitions.size - 1) ≤ 20000000000 := by
  refine ⟨{ (resetToBuiltinUTC 3600).val with extended := true }, ?_, ?_, rfl, by decide +kernel⟩
  · obtain ⟨⟨a, b, c, d⟩, _, _⟩ := fixed_table 3600 (by decide) (by decide)
    exact ⟨a, b, c, d⟩
  · obtain ⟨_, ⟨a, b, c, d⟩, _⟩ := fixed_table 3600 (by decide) (by decide)
    exact ⟨a, b, c, d⟩

end Cctz.C01
