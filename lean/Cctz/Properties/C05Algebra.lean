/-
  C05 (continued) — the algebra a caller relies on when civil-time steps are chained:
  `(a + n) + m = a + (n + m)`, `(a + n) - n = a`, `a - n = a + (-n)`, `a + 0 = a`,
  `(a + n) - (a + m) = n - m`, `b - a = -(a - b)`, the difference chain rule, and "adding is
  strictly monotone".  Each chains two or three modelled operations, so these are statements
  about the model's composition; they are corollaries of the exactness theorems in `C05.lean`
  and of the injectivity of the unit count on valid aligned fields.
-/
import Cctz.Properties.C05

namespace Cctz.C05Algebra
open Cctz.Spec

def add_add_statement : Prop :=
  ∀ (t : Tag) (a : Fields) (n m : Int), Valid a → Aligned t a →
    (Civil.civilAdd t (Civil.civilAdd t a n).val m).val = (Civil.civilAdd t a (n + m)).val

def add_sub_cancel_statement : Prop :=
  ∀ (t : Tag) (a : Fields) (n : Int), Valid a → Aligned t a →
    (Civil.civilSub t (Civil.civilAdd t a n).val n).val = a ∧
    (Civil.civilAdd t (Civil.civilSub t a n).val n).val = a

def sub_eq_add_neg_statement : Prop :=
  ∀ (t : Tag) (a : Fields) (n : Int), Valid a → Aligned t a →
    (Civil.civilSub t a n).val = (Civil.civilAdd t a (-n)).val

def add_zero_statement : Prop :=
  ∀ (t : Tag) (a : Fields), Valid a → Aligned t a →
    (Civil.civilAdd t a 0).val = a ∧ (Civil.civilSub t a 0).val = a

def difference_of_adds_statement : Prop :=
  ∀ (t : Tag) (a : Fields) (n m : Int), Valid a → Aligned t a →
    (Civil.difference t (Civil.civilAdd t a n).val (Civil.civilAdd t a m).val).val = n - m

def difference_antisymm_statement : Prop :=
  ∀ (t : Tag) (a b : Fields), Valid a → Valid b → Aligned t a → Aligned t b →
    (Civil.difference t b a).val = -(Civil.difference t a b).val ∧
    ((Civil.difference t a b).val = 0 ↔ a = b)

def difference_chain_statement : Prop :=
  ∀ (t : Tag) (a b c : Fields), Valid a → Valid b → Valid c → Aligned t a → Aligned t b → Aligned t c →
    (Civil.difference t a c).val = (Civil.difference t a b).val + (Civil.difference t b c).val

/-- adding is strictly monotone in both arguments, as seen by the library's own `<` -/
def add_monotone_statement : Prop :=
  ∀ (t : Tag) (a b : Fields) (n m : Int), Valid a → Valid b → Aligned t a → Aligned t b →
    (Civil.lt (Civil.civilAdd t a n).val (Civil.civilAdd t a m).val = true ↔ n < m) ∧
    (Civil.lt (Civil.civilAdd t a n).val (Civil.civilAdd t b n).val = true ↔ Civil.lt a b = true)

theorem add_add : add_add_statement := by
  intro t a n m va ha
  obtain ⟨v1, a1, u1⟩ := C05.add_exact t a n va ha
  obtain ⟨v2, a2, u2⟩ := C05.add_exact t _ m v1 a1
  obtain ⟨v3, a3, u3⟩ := C05.add_exact t a (n + m) va ha
  apply unitNum_inj t v2 v3 a2 a3
  rw [u2, u1, u3]; omega

theorem add_sub_cancel : add_sub_cancel_statement := by
  intro t a n va ha
  obtain ⟨v1, a1, u1⟩ := C05.add_exact t a n va ha
  obtain ⟨v2, a2, u2⟩ := C05.sub_exact t _ n v1 a1
  obtain ⟨v3, a3, u3⟩ := C05.sub_exact t a n va ha
  obtain ⟨v4, a4, u4⟩ := C05.add_exact t _ n v3 a3
  constructor
  · apply unitNum_inj t v2 va a2 ha; rw [u2, u1]; omega
  · apply unitNum_inj t v4 va a4 ha; rw [u4, u3]; omega

theorem sub_eq_add_neg : sub_eq_add_neg_statement := by
  intro t a n va ha
  obtain ⟨v1, a1, u1⟩ := C05.sub_exact t a n va ha
  obtain ⟨v2, a2, u2⟩ := C05.add_exact t a (-n) va ha
  apply unitNum_inj t v1 v2 a1 a2
  rw [u1, u2]; omega

theorem add_zero : add_zero_statement := by
  intro t a va ha
  obtain ⟨v1, a1, u1⟩ := C05.add_exact t a 0 va ha
  obtain ⟨v2, a2, u2⟩ := C05.sub_exact t a 0 va ha
  constructor
  · apply unitNum_inj t v1 va a1 ha; rw [u1]; omega
  · apply unitNum_inj t v2 va a2 ha; rw [u2]; omega

theorem difference_of_adds : difference_of_adds_statement := by
  intro t a n m va ha
  obtain ⟨v1, a1, u1⟩ := C05.add_exact t a n va ha
  obtain ⟨v2, a2, u2⟩ := C05.add_exact t a m va ha
  rw [C05.difference_exact t _ _ v1 v2 a1 a2, u1, u2]; omega

theorem difference_antisymm : difference_antisymm_statement := by
  intro t a b va vb ha hb
  rw [C05.difference_exact t a b va vb ha hb, C05.difference_exact t b a vb va hb ha]
  refine ⟨by omega, ?_, ?_⟩
  · intro h; exact unitNum_inj t va vb ha hb (by omega)
  · intro h; subst h; omega

theorem difference_chain : difference_chain_statement := by
  intro t a b c va vb vc ha hb hc
  rw [C05.difference_exact t a c va vc ha hc, C05.difference_exact t a b va vb ha hb,
    C05.difference_exact t b c vb vc hb hc]
  omega

theorem add_monotone : add_monotone_statement := by
  intro t a b n m va vb ha hb
  obtain ⟨v1, a1, u1⟩ := C05.add_exact t a n va ha
  obtain ⟨v2, a2, u2⟩ := C05.add_exact t a m va ha
  obtain ⟨v3, a3, u3⟩ := C05.add_exact t b n vb hb
  constructor
  · rw [C05.lt_iff_difference t _ _ v1 v2 a1 a2, C05.difference_exact t _ _ v1 v2 a1 a2, u1, u2]; omega
  · rw [C05.lt_iff_difference t _ _ v1 v3 a1 a3, C05.difference_exact t _ _ v1 v3 a1 a3, u1, u3,
      C05.lt_iff_difference t a b va vb ha hb, C05.difference_exact t a b va vb ha hb]; omega

/-! satisfiable, and non-trivial: a month step across a year end and a leap day -/
example : Valid ⟨2023, 12, 1, 0, 0, 0⟩ ∧ Aligned .month ⟨2023, 12, 1, 0, 0, 0⟩ ∧
    (Civil.civilAdd .month (Civil.civilAdd .month ⟨2023, 12, 1, 0, 0, 0⟩ 2).val (-14)).val = ⟨2022, 12, 1, 0, 0, 0⟩ ∧
    (Civil.civilSub .day (Civil.civilAdd .day ⟨2024, 2, 28, 0, 0, 0⟩ 2).val 2).val = ⟨2024, 2, 28, 0, 0, 0⟩ := by
  decide +kernel

end Cctz.C05Algebra
