/-
  `makeTimeCore` split into its two phases (find the first transition after the target civil
  second; answer from it), and what each phase computes.
-/
import Cctz.Model.Tz
import Cctz.Spec.TableSem
import Cctz.Proofs.CivilArith
import Cctz.Proofs.TcSeg
import Cctz.Proofs.TableLookup

namespace Cctz.Tc
open Cctz Cctz.Tz Cctz.Spec

/-- does the hint answer the search? -/
def viaHintC (z : Zone) (hint : Nat) (cs : Fields) : Ck Bool :=
  (if 0 < hint ∧ hint < z.transitions.size then do
      let a ← getTrans z (hint - 1)
      if Civil.le a.civilSec cs then
        let b ← getTrans z hint
        pure (Civil.lt cs b.civilSec)
      else pure false
    else pure false : Ck Bool)

/-- phase 1 of `MakeTime`: index of the first transition after `cs`, and the new hint -/
def findTr (z : Zone) (hint : Nat) (cs : Fields) (first last : Transition) : Ck (Nat × Nat) :=
  let timecnt := z.transitions.size
  (if Civil.lt cs first.civilSec then pure (0, hint)
    else if !(Civil.lt cs last.civilSec) then pure (timecnt, hint)
    else do
      let viaHint ← viaHintC z hint cs
      if viaHint then pure (hint, hint)
      else
        let i := upperBoundCivil z.transitions cs
        pure (i, i) : Ck (Nat × Nat))

/-- the result type of the answering phase: `inl` = answer, `inr s` = take the `TimeLocal` path with
shift `s`; paired with the new hint -/
abbrev Ans := Ck ((CivilLookup ⊕ Int) × Nat)

/-- UNIQUE before the first change, saturated at min() below the default type's `civil_min` -/
def headAns (z : Zone) (cs : Fields) (hint' : Nat) : Ans := do
  let tt ← getType z z.defaultType
  if Civil.lt cs tt.civilMin then return (.inl (mkUnique i64min), hint')
  let base ← Civil.civilAdd .second epoch tt.utcOffset
  let d ← Civil.difference .second cs base
  return (.inl (mkUnique d), hint')

/-- UNIQUE in the stretch that change `p` opens -/
def uniqueAns (p : Transition) (cs : Fields) (hint' : Nat) : Ans := do
  let d ← Civil.difference .second cs p.civilSec
  let r ← chk64 (p.unixTime + d)
  return (.inl (mkUnique r), hint')

/-- after the last change: beyond `last_year_` of an extended table ask for the shift, else UNIQUE,
saturated at max() beyond the `civil_max` of the last type -/
def tailAns (z : Zone) (cs : Fields) (last : Transition) (hint' : Nat) : Ans := do
  if z.extended then
    let ly ← rd z.lastYear 0
    if cs.y > ly then
      let a ← chk64 (cs.y - ly)
      let b ← chk64 (a - 1)
      let shift ← chk64 (cdiv b 400 + 1)
      return (.inr shift, hint')
  let tt ← getType z last.typeIndex
  if Civil.lt tt.civilMax cs then return (.inl (mkUnique i64max), hint')
  uniqueAns last cs hint'

/-- SKIPPED / REPEATED: the answer of `MakeSkipped` / `MakeRepeated` -/
def inlAns (x : Ck CivilLookup) (hint' : Nat) : Ans := do
  let r ← x
  return (.inl r, hint')

/-- phase 2 of `MakeTime` -/
def answerAt (z : Zone) (cs : Fields) (first last : Transition) (tr hint' : Nat) : Ans :=
  if tr = 0 then
    if Civil.le cs first.prevCivilSec then headAns z cs hint' else inlAns (makeSkipped first cs) hint'
  else if tr = z.transitions.size then
    if Civil.lt last.prevCivilSec cs then tailAns z cs last hint'
    else inlAns (makeRepeated last cs) hint'
  else do
    let t ← getTrans z tr
    if Civil.lt t.prevCivilSec cs then inlAns (makeSkipped t cs) hint'
    else do
      let p ← getTrans z (tr - 1)
      if Civil.le cs p.prevCivilSec then inlAns (makeRepeated p cs) hint' else uniqueAns p cs hint'

theorem makeTimeCore_eq (z : Zone) (hint : Nat) (cs : Fields) :
    makeTimeCore z hint cs = (do
      let first ← getTrans z 0
      let last ← getTrans z (z.transitions.size - 1)
      let r ← findTr z hint cs first last
      answerAt z cs first last r.1 r.2) := rfl

theorem diff_sec (a b : Fields) (va : Valid a) (vb : Valid b) :
    (Civil.difference .second a b).val = secNum a - secNum b :=
  difference_val .second a b va vb trivial trivial

section cmp
variable {z : Zone} (cols : CivilCols z) {cs : Fields} (vcs : Valid cs) {i : Nat} (hi : i < z.transitions.size)
include cols vcs hi

theorem lt_civ : Civil.lt cs (trn z i).civilSec = true ↔ secNum cs < timeOf z i + offOf z i := by
  rw [lt_iff_secNum vcs (cols.civ i hi).1, (cols.civ i hi).2]
theorem lt_prev : Civil.lt (trn z i).prevCivilSec cs = true ↔ timeOf z i + offBefore z i - 1 < secNum cs := by
  rw [lt_iff_secNum (cols.prev i hi).1 vcs, (cols.prev i hi).2]
theorem le_prev : Civil.le cs (trn z i).prevCivilSec = true ↔ secNum cs ≤ timeOf z i + offBefore z i - 1 := by
  rw [le_iff_secNum vcs (cols.prev i hi).1, (cols.prev i hi).2]
end cmp

/-- `k` is the index of the first change whose civil second is after `x` -/
def FirstAfter (z : Zone) (x : Int) (k : Nat) : Prop :=
  k ≤ z.transitions.size ∧ (0 < k → timeOf z (k - 1) + offOf z (k - 1) ≤ x) ∧
  (k < z.transitions.size → x < timeOf z k + offOf z k)

theorem findTr_of_first (z : Zone) (hint : Nat) {cs : Fields} {first : Transition} (last : Transition)
    (h1 : Civil.lt cs first.civilSec = true) : (findTr z hint cs first last).val = (0, hint) := by
  unfold findTr; rw [if_pos h1]; rfl

theorem findTr_of_last (z : Zone) (hint : Nat) {cs : Fields} {first last : Transition}
    (h1 : Civil.lt cs first.civilSec = false) (h2 : Civil.lt cs last.civilSec = false) :
    (findTr z hint cs first last).val = (z.transitions.size, hint) := by
  unfold findTr
  simp only [h1, h2, Bool.false_eq_true, if_false, Bool.not_false, if_true, Ck.pure_val]

theorem findTr_flags (z : Zone) (hint : Nat) (cs : Fields) (first last : Transition) :
    (findTr z hint cs first last).flags = Flags.none := by
  unfold findTr
  split
  · rfl
  split
  · rfl
  have hv : (viaHintC z hint cs).flags = Flags.none := by
    unfold viaHintC
    by_cases hc : 0 < hint ∧ hint < z.transitions.size
    · simp only [hc, and_self, if_true, Tb.getTrans_eq z (hint - 1) (by omega),
        Tb.getTrans_eq z hint hc.2, Ck.bind_flags, Ck.pure_flags, Flags.none_or]
      split <;> rfl
    · rw [if_neg hc]; rfl
  simp only [Ck.bind_flags, hv, Flags.none_or]
  split <;> rfl

/-- the search phase returns the partition point of the civil column by "after `cs`", for every
hint, as soon as "after `cs`" is monotone along the column -/
theorem findTr_split (z : Zone) (hint : Nat) (cs : Fields) (hn : 0 < z.transitions.size)
    (mono : ∀ i j, i ≤ j → j < z.transitions.size →
      Civil.lt cs (trn z i).civilSec = true → Civil.lt cs (trn z j).civilSec = true) :
    Tb.IsSplit (fun i => Civil.lt cs (trn z i).civilSec) 0 z.transitions.size
      (findTr z hint cs (trn z 0) (trn z (z.transitions.size - 1))).val.1 := by
  have below : ∀ k, k < z.transitions.size → Civil.lt cs (trn z k).civilSec = false →
      ∀ i, i ≤ k → Civil.lt cs (trn z i).civilSec = false := fun k hk h i hi => by
    cases hc : Civil.lt cs (trn z i).civilSec with
    | false => rfl
    | true => rw [← h, mono i k hi hk hc]
  unfold findTr
  by_cases h1 : Civil.lt cs (trn z 0).civilSec = true
  · simp only [h1, if_true, Ck.pure_val]
    exact ⟨Nat.le_refl _, Nat.zero_le _, fun i _ h => absurd h (by omega),
      fun i _ hi => mono 0 i (Nat.zero_le _) hi h1⟩
  · simp only [h1, if_false, Bool.false_eq_true]
    by_cases h2 : Civil.lt cs (trn z (z.transitions.size - 1)).civilSec = true
    · simp only [h2, Bool.not_true, Bool.false_eq_true, if_false, Ck.bindv]
      cases hv : (viaHintC z hint cs).val
      case true =>
        simp only [if_true, Ck.pure_val]
        unfold viaHintC at hv
        by_cases hc : 0 < hint ∧ hint < z.transitions.size
        · simp only [hc, and_self, if_true, Ck.bindv, Tl.getTrans_val] at hv
          by_cases hle : Civil.le (trn z (hint - 1)).civilSec cs = true
          · simp only [hle, if_true, Ck.bindv, Tl.getTrans_val, Ck.pure_val] at hv
            simp only [Civil.le, Bool.not_eq_true'] at hle
            exact ⟨Nat.zero_le _, by omega, fun i _ hi => below (hint - 1) (by omega) hle i (by omega),
              fun i hi hi2 => mono hint i hi hi2 hv⟩
          · simp only [hle, if_false, Ck.pure_val, Bool.false_eq_true] at hv
        · simp only [hc, if_false, Ck.pure_val, Bool.false_eq_true] at hv
      case false =>
        simp only [Bool.false_eq_true, if_false, Ck.pure_val]
        exact Tb.upperBoundCivil_spec z cs mono
    · simp only [h2, Bool.not_false, if_true, Ck.pure_val]
      exact ⟨Nat.zero_le _, Nat.le_refl _,
        fun i _ hi => below _ (by omega) (Bool.not_eq_true _ ▸ h2) i (by omega),
        fun i h hi => absurd hi (by omega)⟩

theorem firstAfter_of_split {z : Zone} (cols : CivilCols z) {cs : Fields} (vcs : Valid cs) {k : Nat}
    (hk : Tb.IsSplit (fun i => Civil.lt cs (trn z i).civilSec) 0 z.transitions.size k) :
    FirstAfter z (secNum cs) k := by
  obtain ⟨_, hkn, c, d⟩ := hk
  refine ⟨hkn, fun h0 => ?_, fun hlt => (lt_civ cols vcs hlt).1 (d k (Nat.le_refl _) hlt)⟩
  have := c (k - 1) (Nat.zero_le _) (by omega)
  rw [← Bool.not_eq_true, lt_civ cols vcs (by omega)] at this
  omega

theorem findTr_spec (z : Zone) (hint : Nat) (cs : Fields) (wf : TableWF z) (cols : CivilCols z)
    (sep : Separated z) (vcs : Valid cs) :
    FirstAfter z (secNum cs)
      (findTr z hint cs (trn z 0) (trn z (z.transitions.size - 1))).val.1 := by
  refine firstAfter_of_split cols vcs (findTr_split z hint cs wf.nonempty fun i j hij hj h => ?_)
  rw [lt_civ cols vcs (by omega)] at h
  rw [lt_civ cols vcs hj]
  have := sep_c_mono sep hij hj
  omega

/-- the instant `MakeTime` reports for a civil second shown only in stretch `k`: `x - offset`,
saturated at min() in the first stretch and at max() in the last -/
def uval (z : Zone) (k : Nat) (x : Int) : Int :=
  if k = 0 then (if x - offBefore z 0 < i64min then i64min else x - offBefore z 0)
  else if k = z.transitions.size then (if i64max < x - offBefore z k then i64max else x - offBefore z k)
  else x - offBefore z k

/-- the three possible answers of `MakeTime` for the civil second numbered `x`, with the position
of `x` relative to the table that produces each -/
inductive Outcome (z : Zone) (x : Int) (r : CivilLookup) : Prop
  | unique (k : Nat) (hk : k ≤ z.transitions.size)
      (h1 : 0 < k → timeOf z (k - 1) + offOf z (k - 1) ≤ x ∧ timeOf z (k - 1) + offBefore z (k - 1) - 1 < x)
      (h2 : k < z.transitions.size → x < timeOf z k + offOf z k ∧ x ≤ timeOf z k + offBefore z k - 1)
      (hr : r = mkUnique (uval z k x))
  | skipped (k : Nat) (hk : k < z.transitions.size)
      (h1 : timeOf z k + offBefore z k - 1 < x) (h2 : x < timeOf z k + offOf z k)
      (hr : r = ⟨.skipped, x - offBefore z k, timeOf z k, x - offOf z k⟩)
  | repeated (i : Nat) (hi : i < z.transitions.size)
      (h1 : timeOf z i + offOf z i ≤ x) (h2 : x ≤ timeOf z i + offBefore z i - 1)
      (hr : r = ⟨.repeated, x - offBefore z i, timeOf z i, x - offOf z i⟩)

theorem ite_ite_of_not {c d : Prop} [Decidable c] [Decidable d] (a b : α) (h : ¬ (c ∧ d)) :
    (if c then (if d then a else b) else b) = b := by
  by_cases hc : c
  · rw [if_pos hc, if_neg fun hd => h ⟨hc, hd⟩]
  · rw [if_neg hc]

theorem inlAns_val (x : Ck CivilLookup) (h' : Nat) : (inlAns x h').val = (.inl x.val, h') := rfl

theorem skipped_val {z : Zone} (cols : CivilCols z) {cs : Fields} (vcs : Valid cs) {i : Nat}
    (hi : i < z.transitions.size) :
    (makeSkipped (trn z i) cs).val =
      ⟨.skipped, secNum cs - offBefore z i, timeOf z i, secNum cs - offOf z i⟩ := by
  simp only [makeSkipped, Ck.bindv, chk64_val, Ck.pure_val, diff_sec _ _ vcs (cols.prev i hi).1,
    diff_sec _ _ (cols.civ i hi).1 vcs, (cols.civ i hi).2, (cols.prev i hi).2, timeOf,
    CivilLookup.mk.injEq, true_and]
  refine ⟨by omega, by omega⟩

theorem repeated_val {z : Zone} (cols : CivilCols z) {cs : Fields} (vcs : Valid cs) {i : Nat}
    (hi : i < z.transitions.size) :
    (makeRepeated (trn z i) cs).val =
      ⟨.repeated, secNum cs - offBefore z i, timeOf z i, secNum cs - offOf z i⟩ := by
  simp only [makeRepeated, Ck.bindv, chk64_val, Ck.pure_val, diff_sec _ _ vcs (cols.civ i hi).1,
    diff_sec _ _ (cols.prev i hi).1 vcs, (cols.civ i hi).2, (cols.prev i hi).2, timeOf,
    CivilLookup.mk.injEq, true_and]
  refine ⟨by omega, by omega⟩

theorem uniqueAns_val {z : Zone} (cols : CivilCols z) {cs : Fields} (vcs : Valid cs) {i : Nat}
    (hi : i < z.transitions.size) (h' : Nat) :
    (uniqueAns (trn z i) cs h').val = (.inl (mkUnique (secNum cs - offOf z i)), h') := by
  unfold uniqueAns
  simp only [Ck.bindv, chk64_val, Ck.pure_val, diff_sec _ _ vcs (cols.civ i hi).1, (cols.civ i hi).2]
  rw [show (trn z i).unixTime + (secNum cs - (timeOf z i + offOf z i)) = secNum cs - offOf z i by
    unfold timeOf; omega]

theorem headAns_val {z : Zone} (wf : TableWF z) (cols : CivilCols z) {cs : Fields} (vcs : Valid cs)
    (h' : Nat) : (headAns z cs h').val = (.inl (mkUnique (uval z 0 (secNum cs))), h') := by
  have ⟨vmin, smin⟩ := cols.tmin _ wf.defaultIdx
  have hoff := offBefore_zero z
  unfold headAns
  simp only [Ck.bindv, Tl.getType_val, uval, if_true]
  by_cases hm : Civil.lt cs (typ z z.defaultType).civilMin = true
  · simp only [hm, if_true, Ck.pure_val]
    rw [lt_iff_secNum vcs vmin, smin] at hm
    rw [if_pos (by omega)]
  · simp only [hm, if_false, Bool.false_eq_true, Ck.bindv, Ck.pure_val]
    have ⟨vb, _, sb⟩ := civilAdd_spec .second epoch (typ z z.defaultType).utcOffset Tl.valid_epoch trivial
    simp only [unitNum, Tl.secNum_epoch] at sb
    rw [lt_iff_secNum vcs vmin, smin] at hm
    rw [diff_sec _ _ vcs vb, sb, if_neg (by omega), hoff, Int.zero_add]

theorem tailAns_val {z : Zone} (wf : TableWF z) (cols : CivilCols z) {cs : Fields} (vcs : Valid cs)
    (ns : NoShift z cs) (h' : Nat) :
    (tailAns z cs (trn z (z.transitions.size - 1)) h').val =
      (.inl (mkUnique (uval z z.transitions.size (secNum cs))), h') := by
  have hn := wf.nonempty
  have hl : z.transitions.size - 1 < z.transitions.size := by omega
  have ⟨vmax, smax⟩ := cols.tmax _ (wf.typeIdx _ hl)
  have hoff := offBefore_pos z hn
  have hns : ¬ (z.extended = true ∧ cs.y > (rd z.lastYear 0).val) := by
    rintro ⟨he, hy⟩
    rcases ns with h | ⟨ly, hly, hle⟩
    · rw [he] at h; cases h
    · simp only [hly, rd, Ck.pure_val] at hy; omega
  unfold tailAns
  simp only [Ck.bindv, Ck.ite_val, Ck.pure_val, Tl.getType_val]
  rw [ite_ite_of_not _ _ hns, uniqueAns_val cols vcs hl, uval, if_neg (Nat.ne_of_gt hn), if_pos rfl, hoff]
  by_cases hm : Civil.lt (typ z (trn z (z.transitions.size - 1)).typeIndex).civilMax cs = true
  · rw [if_pos hm]; rw [lt_iff_secNum vmax vcs, smax] at hm
    rw [if_pos (by unfold offOf; omega)]
  · rw [if_neg hm]; rw [lt_iff_secNum vmax vcs, smax] at hm
    rw [if_neg (by unfold offOf; omega)]

/-- The case analysis of the answering phase, in terms of the position of `x = secNum cs` among the
civil seconds `c i = timeOf i + offOf i` shown at the changes and `p i = timeOf i + offBefore i - 1`
shown just before them, for an index `k` with `c (k-1) ≤ x < c k`. -/
theorem answerAt_cases {z : Zone} (wf : TableWF z) (cols : CivilCols z) {cs : Fields} (vcs : Valid cs)
    {k : Nat} (hk : k ≤ z.transitions.size) (h' : Nat) {M : Ans → Prop}
    (head : k = 0 → secNum cs ≤ timeOf z 0 + offBefore z 0 - 1 → M (headAns z cs h'))
    (tail : k = z.transitions.size →
      timeOf z (z.transitions.size - 1) + offBefore z (z.transitions.size - 1) - 1 < secNum cs →
      M (tailAns z cs (trn z (z.transitions.size - 1)) h'))
    (uniq : 0 < k → k < z.transitions.size → timeOf z (k - 1) + offBefore z (k - 1) - 1 < secNum cs →
      secNum cs ≤ timeOf z k + offBefore z k - 1 → M (uniqueAns (trn z (k - 1)) cs h'))
    (skip : k < z.transitions.size → timeOf z k + offBefore z k - 1 < secNum cs →
      M (inlAns (makeSkipped (trn z k) cs) h'))
    (rep : 0 < k → secNum cs ≤ timeOf z (k - 1) + offBefore z (k - 1) - 1 →
      M (inlAns (makeRepeated (trn z (k - 1)) cs) h')) :
    M (answerAt z cs (trn z 0) (trn z (z.transitions.size - 1)) k h') := by
  have hn := wf.nonempty
  unfold answerAt
  by_cases k0 : k = 0
  · subst k0
    rw [if_pos rfl]
    by_cases hp : Civil.le cs (trn z 0).prevCivilSec = true
    · rw [if_pos hp]; exact head rfl ((le_prev cols vcs hn).1 hp)
    · rw [if_neg hp]; rw [le_prev cols vcs hn] at hp; exact skip hn (by omega)
  rw [if_neg k0]
  by_cases kn : k = z.transitions.size
  · subst kn
    rw [if_pos rfl]
    have hl : z.transitions.size - 1 < z.transitions.size := by omega
    by_cases hp : Civil.lt (trn z (z.transitions.size - 1)).prevCivilSec cs = true
    · rw [if_pos hp]; exact tail rfl ((lt_prev cols vcs hl).1 hp)
    · rw [if_neg hp]; rw [lt_prev cols vcs hl] at hp; exact rep (by omega) (by omega)
  have hkl : k < z.transitions.size := by omega
  have hk1 : k - 1 < z.transitions.size := by omega
  rw [if_neg kn, Tb.getTrans_eq z k hkl, Tb.pure_bind_ck]
  by_cases hp : Civil.lt (trn z k).prevCivilSec cs = true
  · rw [if_pos hp]; exact skip hkl ((lt_prev cols vcs hkl).1 hp)
  rw [if_neg hp, Tb.getTrans_eq z (k - 1) hk1, Tb.pure_bind_ck]
  rw [lt_prev cols vcs hkl] at hp
  by_cases hq : Civil.le cs (trn z (k - 1)).prevCivilSec = true
  · rw [if_pos hq]; exact rep (by omega) ((le_prev cols vcs hk1).1 hq)
  · rw [if_neg hq]; rw [le_prev cols vcs hk1] at hq; exact uniq (by omega) hkl (by omega) (by omega)

theorem answerAt_spec (z : Zone) (cs : Fields) (wf : TableWF z) (cols : CivilCols z)
    (vcs : Valid cs) (ns : NoShift z cs) (k h' : Nat) (hk : FirstAfter z (secNum cs) k) :
    ∃ r, (answerAt z cs (trn z 0) (trn z (z.transitions.size - 1)) k h').val = (.inl r, h') ∧
      Outcome z (secNum cs) r := by
  have hn := wf.nonempty
  obtain ⟨hkn, hk1, hk2⟩ := hk
  refine answerAt_cases wf cols vcs hkn h'
    (M := fun a => ∃ r, a.val = (.inl r, h') ∧ Outcome z (secNum cs) r) ?_ ?_ ?_ ?_ ?_
  · intro k0 hp
    subst k0
    exact ⟨_, headAns_val wf cols vcs h',
      .unique 0 hkn (fun h => absurd h (by omega)) (fun _ => ⟨hk2 hn, hp⟩) rfl⟩
  · intro kn hp
    subst kn
    exact ⟨_, tailAns_val wf cols vcs ns h',
      .unique _ hkn (fun _ => ⟨hk1 hn, hp⟩) (fun h => absurd h (by omega)) rfl⟩
  · intro h0 hkl hp hq
    refine ⟨_, uniqueAns_val cols vcs (by omega) h',
      .unique k hkn (fun _ => ⟨hk1 h0, hp⟩) (fun _ => ⟨hk2 hkl, hq⟩) ?_⟩
    rw [uval, if_neg (by omega), if_neg (by omega), offBefore_pos z h0]
  · intro hkl hp
    exact ⟨_, inlAns_val _ _, .skipped k hkl hp (hk2 hkl) (skipped_val cols vcs hkl)⟩
  · intro h0 hq
    exact ⟨_, inlAns_val _ _, .repeated _ (by omega) (hk1 h0) hq (repeated_val cols vcs (by omega))⟩

theorem makeTime_of_core (z : Zone) (h : Nat) (cs : Fields) (r : CivilLookup) (h' : Nat)
    (hc : (makeTimeCore z h cs).val = (.inl r, h')) : (makeTime z h cs).val = (r, h') := by
  unfold makeTime
  simp only [Ck.bindv]
  rw [hc]
  rfl

theorem makeTime_outcome (z : Zone) (h : Nat) (cs : Fields) (wf : TableWF z) (cols : CivilCols z)
    (sep : Separated z) (vcs : Valid cs) (ns : NoShift z cs) :
    Outcome z (secNum cs) (makeTime z h cs).val.1 := by
  obtain ⟨r, hr, ho⟩ := answerAt_spec z cs wf cols vcs ns _
    (findTr z h cs (trn z 0) (trn z (z.transitions.size - 1))).val.2 (findTr_spec z h cs wf cols sep vcs)
  rw [makeTime_of_core z h cs r _ (by simp only [makeTimeCore_eq, Ck.bindv, Tl.getTrans_val]; exact hr)]
  exact ho

end Cctz.Tc
