/-
  The seam — C02 / C03 / C06 for EVERY valid civil second and every int64 instant: across the seam
  between recorded and rule-generated transitions, in years reached through the 400-year shift of
  `MakeTime` (`TimeLocal`), and at the saturated ends.  No `NoShift` hypothesis.

  Semantics: the zone's FULL offset function `offFull z t` is what the model's own `BreakTime`
  reports at `t`, 400-year shift included (`Cctz/Proofs/SeamDefs.lean`); `showsFull z t x` says
  instant `t` displays the civil second numbered `x`.  `offFull` is the table below the last entry
  and for tables that are not extended, does not depend on the hint, and is k400-periodic from
  `last − k400` on (`offFull_…` below).

  `MakeTime` shifts by civil YEAR (years after `lastYear` are looked up 400·s years earlier),
  `BreakTime` by INSTANT (instants at or after the last entry are looked up s cycles earlier), and
  the two agree only on tables that are consistent around the seam: `SeamOK` (four clauses, see
  `Seam.SeamAt` in Cctz/Proofs/SeamDefs.lean; vacuous for tables that are not extended; decided by
  `seamOKb` of Cctz/Proofs/SeamCheck.lean, theorem `seamOKb_iff`).  The statements are false without
  it (`convert_monotone_needs_SeamOK`, `makeTime_full_needs_SeamOK`, `roundtrip_full_needs_SeamOK`,
  `convert_monotone_needs_below`), and the round trip also needs `ShiftRoom`
  (`roundtrip_full_needs_ShiftRoom`).  `SeamOK` holds for the tables `ExtendTransitions` builds
  whenever every instant of the footer rule lies inside its own civil year on both clocks
  (`seamOK_of_rule`); a well-formed TZif file whose footer violates that (daylight time starting at
  `J1` minus one hour, `Seam.newYearTzif`) loads into a table on which `convert` is NOT monotone and
  a skipped civil second is reported UNIQUE — in the model and in the C++ alike.
  `seamOKb` and `shiftRoomb` answer `true` on all 598 shipped zones of testdata/zoneinfo (199 of
  them extended), evaluated with `#eval` over `Tz.load`.

  Vocabulary (Cctz/Proofs/SeamDefs.lean): `k400`, `offFull`, `showsFull`, `lastT`, `lastOff`,
  `lastOffBefore`, `yearStart`, `SeamAt`, `SeamOK`, `ShiftRoom`, `cycles`, `moved`.
-/
import Cctz.Model.Tz
import Cctz.Spec.TableSem
import Cctz.Spec.TableTame
import Cctz.Proofs.SeamDefs
import Cctz.Proofs.SeamSem
import Cctz.Proofs.SeamPath
import Cctz.Proofs.SeamBack
import Cctz.Proofs.SeamCheck
import Cctz.Proofs.SeamCheckSound
import Cctz.Proofs.SeamWitness
import Cctz.Proofs.TcWitness
import Cctz.Proofs.SeamRule
import Cctz.Proofs.SeamNY
import Cctz.Properties.C01Glue

namespace Cctz.Seam
open Cctz Cctz.Tz Cctz.Spec

/-- the full semantics does not depend on the hint, and `BreakTime` reports the civil second
`t + offFull t` -/
def offFull_hint_statement : Prop :=
  ∀ (z : Zone) (h : Nat) (t : Int), TableWF z → CivilCols z →
    let a := (breakTime z h t).val.1
    a.offset = offFull z t ∧ Valid a.cs ∧ showsFull z t (secNum a.cs)

/-- below the last entry, and everywhere on a table that is not extended, it is the table -/
def offFull_table_statement : Prop :=
  ∀ (z : Zone) (t : Int), TableWF z → CivilCols z → (z.extended = false ∨ t < lastT z) →
    offFull z t = offAt z t

/-- at or after the last entry of an extended table it is the table's offset a whole number of
cycles earlier, inside `[last − k400, last)`; hence it is periodic from `last − k400` on -/
def offFull_period_statement : Prop :=
  ∀ (z : Zone) (t : Int), TableWF z → CivilCols z → z.extended = true →
    (lastT z ≤ t → offFull z t = offAt z (t - ((t - lastT z) / k400 + 1) * k400)) ∧
    (lastT z - k400 ≤ t → offFull z (t + k400) = offFull z t)

/-- What lookup(cs) must answer, in the full semantics.  With `s = cycles z cs` (0 on the table
path, the number of 400-year cycles `MakeTime` moves `cs` back otherwise) and `moved s` the code's
forward move with saturation at max() (`moved 0 v = v`):
 * UNIQUE iff exactly one integer instant `t` displays `cs` in the full semantics; the three fields
   are `t` moved back, clamped to int64 (the table path's saturation at the ends), moved forward;
 * SKIPPED iff no instant displays `cs`; `trans` is the table transition `i` moved forward by `s`
   cycles, `pre`/`post` are `x − offset before/after` (moved back and forward again, i.e. saturated);
 * REPEATED iff exactly the two instants `x − offset before/after transition i` display `cs`. -/
def ClassifiedFull (z : Zone) (h : Nat) (cs : Fields) : Prop :=
  let r := (makeTime z h cs).val.1
  let x := secNum cs
  let s := cycles z cs
  match r.kind with
  | .unique => ∃ t, (∀ u, showsFull z u x ↔ u = t) ∧
      r.pre = moved s (clamp64 (t - s * k400)) ∧ r.trans = moved s (clamp64 (t - s * k400)) ∧
      r.post = moved s (clamp64 (t - s * k400))
  | .skipped => (∀ u, ¬ showsFull z u x) ∧ ∃ i, i < z.transitions.size ∧
      r.trans = moved s (timeOf z i) ∧ r.pre = moved s (x - s * k400 - offBefore z i) ∧
      r.post = moved s (x - s * k400 - offOf z i) ∧
      x - offBefore z i ≥ timeOf z i + s * k400 ∧ timeOf z i + s * k400 > x - offOf z i
  | .repeated => ∃ i, i < z.transitions.size ∧
      (∀ u, showsFull z u x ↔ u = x - offBefore z i ∨ u = x - offOf z i) ∧
      r.trans = moved s (timeOf z i) ∧ r.pre = moved s (x - s * k400 - offBefore z i) ∧
      r.post = moved s (x - s * k400 - offOf z i) ∧
      x - offBefore z i < timeOf z i + s * k400 ∧ timeOf z i + s * k400 ≤ x - offOf z i

/-- C02 for every valid civil second (no `NoShift`) -/
def makeTime_full_statement : Prop :=
  ∀ (z : Zone) (h : Nat) (cs : Fields), TableWF z → CivilCols z → Separated z → TimesInRange z →
    SeamOK z → Valid cs → ClassifiedFull z h cs

/-- … and with `ShiftRoom` (the last entry is not before 2196-12-05) the saturation is plain
clamping of the documented instants to the int64 range: `t` for UNIQUE, the transition moved
forward and `x − offset before` for SKIPPED, the transition moved forward and both instants for
REPEATED (`post` of SKIPPED, which lies before the transition by the size of the gap, is left as in
`makeTime_full_statement`: offsets are not bounded by the hypotheses) -/
def makeTime_clamped_statement : Prop :=
  ∀ (z : Zone) (h : Nat) (cs : Fields), TableWF z → CivilCols z → Separated z → TimesInRange z →
    SeamOK z → ShiftRoom z → Valid cs → 1 ≤ cycles z cs →
    let r := (makeTime z h cs).val.1
    let x := secNum cs
    let s := cycles z cs
    match r.kind with
    | .unique => ∃ t, (∀ u, showsFull z u x ↔ u = t) ∧
        r.pre = clamp64 t ∧ r.trans = clamp64 t ∧ r.post = clamp64 t
    | .skipped => (∀ u, ¬ showsFull z u x) ∧ ∃ i, i < z.transitions.size ∧
        r.trans = clamp64 (timeOf z i + s * k400) ∧ r.pre = clamp64 (x - offBefore z i)
    | .repeated => ∃ i, i < z.transitions.size ∧
        (∀ u, showsFull z u x ↔ u = x - offBefore z i ∨ u = x - offOf z i) ∧
        r.trans = clamp64 (timeOf z i + s * k400) ∧ r.pre = clamp64 (x - offBefore z i) ∧
        r.post = clamp64 (x - offOf z i)

/-- looking up the civil second that lookup(t) reports recovers t: UNIQUE with pre = t, or REPEATED
with t one of pre/post; never SKIPPED -/
def RoundTrips (z : Zone) (h h' : Nat) (t : Int) : Prop :=
  let cs := (breakTime z h t).val.1.cs
  let r := (makeTime z h' cs).val.1
  (r.kind = .unique ∧ r.pre = t) ∨ (r.kind = .repeated ∧ (r.pre = t ∨ r.post = t))

/-- C03 for every int64 instant (no `t < last` restriction, no `NoShift`) -/
def roundtrip_full_statement : Prop :=
  ∀ (z : Zone) (h h' : Nat) (t : Int), TableWF z → CivilCols z → Separated z → SeamOK z →
    ShiftRoom z → inI64 t → RoundTrips z h h' t

/-- C06 for all valid civil seconds: `convert` preserves order on the table, across the seam, in
shifted years and at the saturated ends -/
def convert_monotone_full_statement : Prop :=
  ∀ (z : Zone) (h1 h2 : Nat) (cs1 cs2 : Fields), TableWF z → CivilCols z → Separated z →
    TimesInRange z → FirstEntryRoom z → SeamOK z →
    Valid cs1 → Valid cs2 → secNum cs1 < secNum cs2 →
    (convert z h1 cs1).val.1 ≤ (convert z h2 cs2).val.1

/-- `seamOKb` (Cctz/Proofs/SeamCheck.lean, one linear scan per clause) decides `SeamOK` -/
def seamOKb_iff_statement : Prop := ∀ z : Zone, TableWF z → (seamOKb z = true ↔ SeamOK z)

/-- nothing is asked of a table that is not extended -/
def seamOK_notExtended_statement : Prop := ∀ z : Zone, z.extended = false → SeamOK z ∧ ShiftRoom z

/-- every instant of the footer rule lies, on the standard and on the daylight clock, inside the
civil year it is computed for -/
def RuleInYear (r : C01Glue.Rule) : Prop :=
  ∀ y a kind, C01Glue.IsRuleInstant r y a kind →
    yearStart y ≤ a + r.stdOff ∧ yearStart y ≤ a + r.dstOff ∧
    a + r.stdOff ≤ yearStart (y + 1) ∧ a + r.dstOff ≤ yearStart (y + 1)

/-- `SeamOK` for the tables `ExtendTransitions` builds (`C01Glue.ExtendedKeys`: the recorded
entries followed by the rule instants of the years y0 … y0+401; `lastYear = y0 + 401`), `Regular`
as in `C01Glue.lookup_follows_rule`: it holds when the last recorded type has one of the rule's two
offsets, the recorded part shows no civil year after y0+1, and the rule has `RuleInYear`.
(`RuleInYear` is what the footer of `newYearTzif` lacks: its `J1` at `-1` instant lies in the year
before.) -/
def seamOK_of_rule_statement : Prop :=
  ∀ (z : Zone) (r : C01Glue.Rule) (rec : List Transition) (y0 : Int) (dstTi stdTi : Nat),
    TableWF z → C01Glue.ExtendedKeys z r rec y0 dstTi stdTi →
    C01Glue.Regular r y0 ((rec.getLast?.map (·.unixTime)).getD 0) →
    z.lastYear = some (y0 + 401) →
    ((typ z ((rec.getLast?.map (·.typeIndex)).getD 0)).utcOffset = r.stdOff ∨
     (typ z ((rec.getLast?.map (·.typeIndex)).getD 0)).utcOffset = r.dstOff) →
    (∀ u, u < (rec.getLast?.map (·.unixTime)).getD 0 → u + offAt z u < yearStart (y0 + 2)) →
    RuleInYear r → SeamOK z

end Cctz.Seam

namespace Cctz.Seam
open Cctz Cctz.Tz Cctz.Spec Cctz.Tc

/-! ## proofs (helpers: Cctz/Proofs/SeamSem.lean, SeamPath.lean, SeamBack.lean,
SeamCheckSound.lean, SeamRule.lean; concrete tables: SeamWitness.lean, SeamNY.lean) -/

theorem offFull_hint : offFull_hint_statement := by
  intro z h t wf cc
  exact ⟨by rw [offFull_eq z wf cc, (breakTime_full z wf cc h t).2.2], breakTime_showsFull z wf cc h t⟩

theorem offFull_table : offFull_table_statement := by
  intro z t wf cc hc
  rw [offFull_eq z wf cc]
  rcases hc with hc | hc
  · exact offExt_notExt z hc t
  · exact offExt_below z hc

theorem offFull_period : offFull_period_statement := by
  intro z t wf cc hx
  refine ⟨fun h => ?_, fun h => ?_⟩
  · rw [offFull_eq z wf cc]; exact offExt_above z hx h
  · rw [offFull_eq z wf cc, offFull_eq z wf cc]; exact offExt_period z hx h

theorem makeTime_full : makeTime_full_statement := by
  intro z h cs wf cols sep tir so vcs
  obtain ⟨r', ho, hr⟩ := makeTime_shape z h cs wf cols sep so vcs
  have hsh := (cycles_back so vcs).shows wf cols sep
  unfold ClassifiedFull
  intro r x s
  have hr0 : r = ⟨r'.kind, moved s r'.pre, moved s r'.trans, moved s r'.post⟩ := hr
  have hsh0 : ∀ u, showsFull z u x ↔ shows z (u - s * k400) (x - s * k400) := hsh
  have ho0 : Outcome z (x - s * k400) r' := ho
  clear_value r x s
  rw [hr0]
  rcases ho0.spec wf sep with ⟨t, w, rfl, hu, _, hc⟩ | ⟨i, hi, rfl, hno, g1, g2⟩ | ⟨i, hi, rfl, hu, g1, g2⟩
  · refine ⟨t + s * k400, fun u => ?_, ?_⟩
    · rw [hsh0, hu]; omega
    · rw [show t + s * k400 - s * k400 = t by omega, ← hc tir]
      exact ⟨rfl, rfl, rfl⟩
  · exact ⟨fun u hu => hno _ ((hsh0 u).1 hu), i, hi, rfl, rfl, rfl, by omega, by omega⟩
  · refine ⟨i, hi, fun u => ?_, rfl, rfl, rfl, by omega, by omega⟩
    rw [hsh0, hu]; omega

theorem makeTime_clamped : makeTime_clamped_statement := by
  intro z h cs wf cols sep tir so room vcs hs1
  have hF := makeTime_full z h cs wf cols sep tir so vcs
  have B := cycles_back so vcs
  have hroom := room (B.extended hs1)
  unfold ClassifiedFull at hF
  simp only [] at hF ⊢
  generalize (makeTime z h cs).val.1 = r at *
  generalize secNum cs = x at *
  generalize cycles z cs = s at *
  -- what is moved forward comes from `last − k400` or later, so that the saturation is clamping
  have mv : ∀ {v w : Int}, w + s * k400 = v → lastT z - k400 ≤ w → moved s w = clamp64 v :=
    fun e hb => by rw [moved_eq_clamp hs1 (by omega), e]
  have hlow : ∀ u, showsFull z u x → lastT z - k400 ≤ u - s * k400 :=
    fun u hu => B.shown_low wf cols sep hs1 hu
  have hent : ∀ i, i < z.transitions.size → x - s * k400 < timeOf z i + offOf z i →
      lastT z - k400 ≤ timeOf z i := fun i hi hlt => Int.not_lt.1 fun hb => by
    have := B.low hs1 hb
    rw [offAt_entry wf hi] at this
    omega
  obtain ⟨kind, pre, trans, post⟩ := r
  cases kind with
  | unique =>
    obtain ⟨t, hu, e1, e2, e3⟩ := hF
    have := moved_clamp_eq_clamp hs1 (show 7161147007 - k400 ≤ t - s * k400 by
      have := hlow t ((hu t).2 rfl); omega)
    rw [show t - s * k400 + s * k400 = t by omega] at this
    exact ⟨t, hu, e1.trans this, e2.trans this, e3.trans this⟩
  | skipped =>
    obtain ⟨hno, i, hi, e2, e1, _, g1, g2⟩ := hF
    have hb := hent i hi (by omega)
    exact ⟨hno, i, hi, e2.trans (mv rfl hb), e1.trans (mv (by omega) (by omega))⟩
  | repeated =>
    obtain ⟨i, hi, hu, e2, e1, e3, g1, g2⟩ := hF
    have h1 := hlow _ ((hu _).2 (Or.inl rfl))
    have h3 := hlow _ ((hu _).2 (Or.inr rfl))
    exact ⟨i, hi, hu, e2.trans (mv rfl (by omega)), e1.trans (mv (by omega) (by omega)),
      e3.trans (mv (by omega) (by omega))⟩

theorem roundtrip_full : roundtrip_full_statement := by
  intro z h h' t wf cols sep so room ht
  unfold RoundTrips
  intro cs
  obtain ⟨vcs, hsh⟩ := breakTime_showsFull z wf cols h t
  obtain ⟨r', ho, hr⟩ := makeTime_shape z h' cs wf cols sep so vcs
  have B : Back z (secNum cs) (cycles z cs) := cycles_back so vcs
  intro r
  have hr0 : r = ⟨r'.kind, moved (cycles z cs) r'.pre, moved (cycles z cs) r'.trans,
    moved (cycles z cs) r'.post⟩ := hr
  have ht' := (B.shows wf cols sep t).1 hsh
  -- the moved-back instant is not before `last − k400` when there is a shift
  have hb : 1 ≤ cycles z cs → 7161147007 - k400 ≤ t - cycles z cs * k400 := by
    intro hs1
    have hroom := room (B.extended hs1)
    have := B.shown_low wf cols sep hs1 hsh
    omega
  have hs0 := B.nonneg
  clear B hsh
  generalize cycles z cs = s at *
  generalize secNum cs = x at *
  -- so it is an int64, and moving it forward again gives `t`
  have hv : i64min ≤ t - s * k400 ∧ t - s * k400 ≤ i64max := by
    unfold inI64 at ht
    rcases Int.lt_or_le s 1 with h0 | h0
    · have : s = 0 := by omega
      subst this; omega
    · have := hb h0
      unfold k400 i64min at *; omega
  have key : moved s (t - s * k400) = t := by
    rw [moved_exact hs0 hb (by unfold inI64 at ht; omega)]; omega
  clear_value r
  rw [hr0]
  rcases ho.spec wf sep with ⟨t', w, rfl, hu, hw, _⟩ | ⟨i, hi, rfl, hno, _⟩ | ⟨i, hi, rfl, hu, _⟩
  · have := (hu _).1 ht'
    exact Or.inl ⟨rfl, by rw [show w = t - s * k400 by omega]; exact key⟩
  · exact absurd ht' (hno _)
  · refine Or.inr ⟨rfl, ?_⟩
    rcases (hu _).1 ht' with e | e
    · left; show moved s (x - s * k400 - offBefore z i) = t; rw [← e]; exact key
    · right; show moved s (x - s * k400 - offOf z i) = t; rw [← e]; exact key

/-- `convert` is monotone in the civil second, whatever the hints (so for one civil second its
value does not depend on the hint) -/
theorem convert_mono {z : Zone} (h1 h2 : Nat) {cs1 cs2 : Fields} (wf : TableWF z) (cols : CivilCols z)
    (sep : Separated z) (tir : TimesInRange z) (fer : FirstEntryRoom z) (so : SeamOK z)
    (v1 : Valid cs1) (v2 : Valid cs2) (hle : secNum cs1 ≤ secNum cs2) :
    (convert z h1 cs1).val.1 ≤ (convert z h2 cs2).val.1 := by
  obtain ⟨a, ha, fa⟩ := convert_first z h1 cs1 wf cols sep tir fer so v1
  obtain ⟨b, hb, fb⟩ := convert_first z h2 cs2 wf cols sep tir fer so v2
  obtain ⟨hs, hv⟩ := (cycles_back so v1).mono wf (cycles_back so v2) hle fa fb
  rw [ha, hb]
  exact moved_clamp_le (cycles_back so v1).nonneg hs hv

theorem convert_monotone_full : convert_monotone_full_statement :=
  fun _ h1 h2 _ _ wf cols sep tir fer so v1 v2 hlt =>
    convert_mono h1 h2 wf cols sep tir fer so v1 v2 (Int.le_of_lt hlt)

theorem seamOKb_iff : seamOKb_iff_statement := fun z wf => seamOKb_spec z wf

theorem seamOK_notExtended : seamOK_notExtended_statement := by
  intro z hx
  exact ⟨fun h => by rw [hx] at h; exact absurd h (by simp), fun h => by rw [hx] at h; exact absurd h (by simp)⟩

theorem seamOK_of_rule : seamOK_of_rule_statement := by
  intro z r rec y0 dstTi stdTi wf hx hreg hly hro hshow hiy _
  obtain ⟨hrec, _, ⟨gen, hl, hkeys⟩, hdo, _, hso, _, gs, ge⟩ := hx
  rw [C01Glue.yearPairs_eq r gs ge] at hkeys
  have ps := Rg.inst_per r.sd r.st r.stdOff gs
  have pe := Rg.inst_per r.ed r.et r.dstOff ge
  have rg := Rg.reg_of_regular gs ge ((C01Glue.regular_iff r y0 _).1 hreg)
  have c := chain_of_table wf ps pe hl hkeys rg
  refine ⟨y0 + 401, hly, seamAt_of_rule wf hrec ps pe hl hkeys rg c hso hdo hro hshow ?_⟩
  intro y a ha
  rcases ha with ha | ha
  · exact hiy y a true ((C01Glue.isRuleInstant_iff r gs ge y a true).2 (Or.inl ⟨rfl, ha⟩))
  · exact hiy y a false ((C01Glue.isRuleInstant_iff r gs ge y a false).2 (Or.inr ⟨rfl, ha⟩))

/-! ## the hypotheses are satisfiable -/

/-- `zYear` (Cctz/Proofs/SeamWitness.lean): an extended table with `lastYear = 2402`, +1 h standard
time, +2 h daylight time from 2002-03-31 to 2002-10-27 and again from 2402-03-31 to 2402-10-27 (the
last entry).  Every hypothesis of the three theorems holds on it, for civil seconds ON the shift path
(year 2900: two cycles; year 2802: one cycle) and at the seam (December 2402, after the last entry,
where `BreakTime` shifts and `MakeTime` does not). -/
example : TableWF zYear ∧ CivilCols zYear ∧ Separated zYear ∧ TimesInRange zYear ∧
    FirstEntryRoom zYear ∧ SeamOK zYear ∧ ShiftRoom zYear ∧ zYear.extended = true ∧
    Valid ⟨2900, 7, 1, 12, 0, 0⟩ ∧ cycles zYear ⟨2900, 7, 1, 12, 0, 0⟩ = 2 ∧
    Valid ⟨2402, 12, 25, 12, 0, 0⟩ ∧ cycles zYear ⟨2402, 12, 25, 12, 0, 0⟩ = 0 ∧
    lastT zYear < 13663594800 ∧ inI64 29348888400 :=
  ⟨zYear_wf, zYear_cols, zYear_sep, zYear_tir, zYear_fer, zYear_seam, zYear_room, rfl,
    by decide, by decide +kernel, by decide, by decide +kernel, by decide +kernel, by decide⟩

/-- all three kinds of answer occur on the shift path (year 2802 is looked up in 2402 and moved
forward one cycle): UNIQUE in 2900, the gap of 2802-03-31, the overlap of 2802-10-27 -/
example : (Tz.makeTime zYear 0 ⟨2900, 7, 1, 12, 0, 0⟩).val.1 = mkUnique 29363684400 ∧
    (Tz.makeTime zYear 5 ⟨2802, 3, 31, 2, 30, 0⟩).val.1 = ⟨.skipped, 26263099800, 26263098000, 26263096200⟩ ∧
    (Tz.makeTime zYear 1 ⟨2802, 10, 27, 2, 30, 0⟩).val.1 = ⟨.repeated, 26281240200, 26281242000, 26281243800⟩ ∧
    (Tz.makeTime zYear 0 ⟨2402, 12, 25, 12, 0, 0⟩).val.1 = mkUnique 13663594800 := by
  decide +kernel

/-- an instant of year 2900 and its round trip -/
example : (breakTime zYear 0 29348888400).val.1.cs = ⟨2900, 1, 11, 6, 0, 0⟩ ∧
    (Tz.makeTime zYear 3 ⟨2900, 1, 11, 6, 0, 0⟩).val.1 = mkUnique 29348888400 := by decide +kernel

/-- a table that is not extended has `SeamOK` and `ShiftRoom` for free: the example table of C02 / C06 -/
example : TableWF zEx ∧ CivilCols zEx ∧ Separated zEx ∧ TimesInRange zEx ∧ FirstEntryRoom zEx ∧
    SeamOK zEx ∧ ShiftRoom zEx :=
  ⟨zEx_wf, zEx_cols, zEx_sep, zEx_tir, zEx_fer, (seamOK_notExtended zEx rfl).1, (seamOK_notExtended zEx rfl).2⟩

/-! ### New York

`nyZ` (Cctz/Proofs/SeamNY.lean) is the table `Rg.nyZone` of Cctz/Proofs/RgExample.lean — the two 2007
transitions of New York followed by the 802 rule instants of 2008 … 2408 — with the `lastYear = 2408`
that `ExtendTransitions` records for it.  Every hypothesis holds on it: `SeamOK` by
`seamAt_of_rule` (the rule `M3.2.0/2,M11.1.0/2` has `InYear`), `Separated` because two rule
instants are more than an hour apart.  (`seamOKb nyZ = true` by `#eval` as well; with `lastYear`
2407 or 2409, i.e. the shift window moved by a year, it answers `false`.  The kernel cannot evaluate
the 804 entries in reasonable time, so the facts below are proved, not decided.) -/
example : TableWF nyZ ∧ CivilCols nyZ ∧ Separated nyZ ∧ TimesInRange nyZ ∧ FirstEntryRoom nyZ ∧
    SeamOK nyZ ∧ ShiftRoom nyZ ∧ nyZ.extended = true ∧ nyZ.lastYear = some 2408 ∧
    Valid ⟨2900, 7, 1, 12, 0, 0⟩ ∧ cycles nyZ ⟨2900, 7, 1, 12, 0, 0⟩ = 2 ∧
    Valid ⟨2408, 12, 25, 12, 0, 0⟩ ∧ cycles nyZ ⟨2408, 12, 25, 12, 0, 0⟩ = 0 :=
  ⟨nyZ_wf, nyZ_cols, nyZ_sep, nyZ_tir, nyZ_fer, nyZ_seamOK, nyZ_room, rfl, rfl,
    by decide, by decide +kernel, by decide, by decide +kernel⟩

/-- so, e.g., `convert` is monotone in New York from Christmas 2408 (table path, after the last
entry) over New Year 2409 (first shifted second) to 2900, whatever the hints, … -/
example (h1 h2 h3 : Nat) :
    (convert nyZ h1 ⟨2408, 12, 25, 12, 0, 0⟩).val.1 ≤ (convert nyZ h2 ⟨2409, 1, 1, 0, 0, 0⟩).val.1 ∧
    (convert nyZ h2 ⟨2409, 1, 1, 0, 0, 0⟩).val.1 ≤ (convert nyZ h3 ⟨2900, 7, 1, 12, 0, 0⟩).val.1 :=
  ⟨convert_monotone_full nyZ h1 h2 _ _ nyZ_wf nyZ_cols nyZ_sep nyZ_tir nyZ_fer nyZ_seamOK
      (by decide) (by decide) (by decide +kernel),
   convert_monotone_full nyZ h2 h3 _ _ nyZ_wf nyZ_cols nyZ_sep nyZ_tir nyZ_fer nyZ_seamOK
      (by decide) (by decide) (by decide +kernel)⟩

/-- … and every int64 instant round-trips, e.g. 2900-01-01 00:00:00 UTC and max() -/
example (h h' : Nat) : RoundTrips nyZ h h' 29348006400 ∧ RoundTrips nyZ h h' i64max :=
  ⟨roundtrip_full nyZ h h' _ nyZ_wf nyZ_cols nyZ_sep nyZ_seamOK nyZ_room (by decide),
   roundtrip_full nyZ h h' _ nyZ_wf nyZ_cols nyZ_sep nyZ_seamOK nyZ_room (by decide)⟩

/-! ## `SeamOK` and `ShiftRoom` are needed -/

/-- `zNewYear` (Cctz/Proofs/SeamWitness.lean) has the shape `Load` gives the 148-byte file
`newYearTzif`, whose footer rule `XST-1XDT,J1/` `-1,J180` starts daylight time one hour BEFORE New
Year: entries 2002-12-31 22:00 UTC → +2 h, 2003-06-29 00:00 UTC → +1 h, … , 2401-12-31 22:00 UTC
→ +2 h, 2402-06-29 00:00 UTC → +1 h, `lastYear = 2402`.  The start that belongs to rule year 2403
happens on 2402-12-31 and is not tabulated; `MakeTime` answers the rest of civil year 2402 with the
last entry's +1 h, `BreakTime` finds +2 h four hundred years earlier.  Every hypothesis except
`SeamOK` (clause `window`) holds, and `convert` goes backwards across New Year 2403:
2402-12-31 23:30:00 ↦ 13664154600, 2403-01-01 00:10:00 ↦ 13664153400. -/
theorem convert_monotone_needs_SeamOK :
    ¬ (∀ (z : Zone) (h1 h2 : Nat) (cs1 cs2 : Fields), TableWF z → CivilCols z → Separated z →
      TimesInRange z → FirstEntryRoom z →
      Valid cs1 → Valid cs2 → secNum cs1 < secNum cs2 →
      (convert z h1 cs1).val.1 ≤ (convert z h2 cs2).val.1) := by
  intro H
  have h := H zNewYear 0 0 ⟨2402, 12, 31, 23, 30, 0⟩ ⟨2403, 1, 1, 0, 10, 0⟩ zNewYear_wf zNewYear_cols
    zNewYear_sep zNewYear_tir zNewYear_fer (by decide) (by decide) (by decide +kernel)
  revert h
  decide +kernel

/-- clause `below` alone is needed too: on `zBelow` the other three clauses of `SeamAt` hold
(`zBelow_clauses`), the instants just before `last − k400` show the first hours of 2003, and
2402-12-31 23:55:00 ↦ 13664156100 while 2403-01-01 00:30:00 ↦ 13664151000 -/
theorem convert_monotone_needs_below :
    ¬ (∀ (z : Zone) (h1 h2 : Nat) (cs1 cs2 : Fields) (ly : Int), TableWF z → CivilCols z → Separated z →
      TimesInRange z → FirstEntryRoom z → z.extended = true → z.lastYear = some ly →
      lastT z + lastOff z ≤ yearStart (ly + 1) → lastT z + lastOffBefore z ≤ yearStart (ly + 1) →
      (∀ t, lastT z - k400 ≤ t → t < lastT z →
        (t + lastOff z < yearStart (ly - 399) ∨ t + offAt z t < yearStart (ly - 399)) →
        offAt z t = lastOff z) →
      Valid cs1 → Valid cs2 → secNum cs1 < secNum cs2 →
      (convert z h1 cs1).val.1 ≤ (convert z h2 cs2).val.1) := by
  intro H
  have h := H zBelow 0 0 ⟨2402, 12, 31, 23, 55, 0⟩ ⟨2403, 1, 1, 0, 30, 0⟩ 2402 zBelow_wf zBelow_cols
    zBelow_sep zBelow_tir zBelow_fer rfl rfl zBelow_clauses.1 zBelow_clauses.2.1
    (window_of_check zBelow_wf 2402 (Lt.allIdx_sound zBelow_clauses.2.2.2))
    (by decide) (by decide) (by decide +kernel)
  revert h
  decide +kernel

/-- … and the civil second 2402-12-31 23:30:00, which no instant displays (daylight time has
started at 23:00), is reported UNIQUE at an instant that displays 2403-01-01 00:30:00 -/
theorem makeTime_full_needs_SeamOK :
    ¬ (∀ (z : Zone) (h : Nat) (cs : Fields), TableWF z → CivilCols z → Separated z → TimesInRange z →
      Valid cs → ClassifiedFull z h cs) := by
  intro H
  have h := H zNewYear 0 ⟨2402, 12, 31, 23, 30, 0⟩ zNewYear_wf zNewYear_cols zNewYear_sep zNewYear_tir
    (by decide)
  have hr : (Tz.makeTime zNewYear 0 ⟨2402, 12, 31, 23, 30, 0⟩).val.1 = mkUnique 13664154600 := by
    decide +kernel
  have hc : cycles zNewYear ⟨2402, 12, 31, 23, 30, 0⟩ = 0 := by decide +kernel
  have hx : secNum ⟨2402, 12, 31, 23, 30, 0⟩ = 13664158200 := by decide +kernel
  unfold ClassifiedFull at h
  simp only [hr, mkUnique, hc, hx, moved_zero, Int.zero_mul, Int.sub_zero] at h
  obtain ⟨t, hsh, hpre, _⟩ := h
  have ht : t = 13664154600 := by
    unfold clamp64 i64min i64max at hpre
    split at hpre
    · omega
    · split at hpre <;> omega
  subst ht
  have := (hsh 13664154600).2 rfl
  unfold showsFull at this
  have ho : offFull zNewYear 13664154600 = 7200 := by decide +kernel
  omega

/-- `zStuck`: daylight time over the whole window `[last − k400, last)`, standard time from the last
entry (2402-06-29) on, `lastYear = 2402`.  `BreakTime` reports daylight time 1000 s after the last
entry, `MakeTime` looks the reported civil second up in standard time: the round trip is an hour off -/
theorem roundtrip_full_needs_SeamOK :
    ¬ (∀ (z : Zone) (h h' : Nat) (t : Int), TableWF z → CivilCols z → Separated z →
      ShiftRoom z → inI64 t → RoundTrips z h h' t) := by
  intro H
  have h := H zStuck 0 0 13648090600 zStuck_wf zStuck_cols zStuck_sep zStuck_room (by decide)
  revert h
  unfold RoundTrips
  decide +kernel

/-- `zEarly`: an extended UTC table whose only entry is at 0 (`SeamOK` holds).  One second below
max() `BreakTime` removes 730692562 cycles; `MakeTime` sees a shift count above `INT64_MAX / k400`
and answers max() -/
theorem roundtrip_full_needs_ShiftRoom :
    ¬ (∀ (z : Zone) (h h' : Nat) (t : Int), TableWF z → CivilCols z → Separated z → SeamOK z →
      inI64 t → RoundTrips z h h' t) := by
  intro H
  have h := H zEarly 0 0 9223372036854775806 zEarly_wf zEarly_cols zEarly_sep zEarly_seam (by decide)
  revert h
  unfold RoundTrips
  decide +kernel

end Cctz.Seam
