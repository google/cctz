/-
  Helper lemmas for C20.factory_once_sequential: when loads do not overlap (every thread runs its
  four steps as a block), the factory is called at most once per name and never concurrently.
  `Quiet` : no load in flight;  `Mid` : exactly thread `τ` may be in flight.
-/
import Cctz.Proofs.LoaderInv

namespace Cctz.Loader
open Cctz Cctz.Bytes

def Idle (p : PC) : Prop := p = .init ∨ ∃ ok id, p = .done ok id

structure Quiet (s : LState) : Prop where
  idle : ∀ (i : Nat) (t : Thread), s.threads[i]? = some t → Idle t.pc
  active : s.active = []
  maxA : s.maxActive ≤ 1
  once : ∀ n : Name, (s.log.filter fun e => e.2 == n).length ≤ 1
  logged : ∀ (i : Nat) (n : Name), (i, n) ∈ s.log → List.lookup n s.map ≠ none

structure Mid (s : LState) (τ : Nat) (t : Thread) : Prop where
  thr : s.threads[τ]? = some t
  others : ∀ (i : Nat) (ti : Thread), τ ≠ i → s.threads[i]? = some ti → Idle ti.pc
  actIn : t.pc = .inFactory → s.active = [τ]
  actOut : t.pc ≠ .inFactory → s.active = []
  maxA : s.maxActive ≤ 1
  once : ∀ n : Name, (s.log.filter fun e => e.2 == n).length ≤ 1
  logged : ∀ (i : Nat) (n : Name), (i, n) ∈ s.log → List.lookup n s.map ≠ none ∨
    (n = t.name ∧ (t.pc = .inFactory ∨ ∃ ok g, t.pc = .built ok g))
  missedNone : t.pc = .missed → List.lookup t.name s.map = none

theorem Idle.not_flying {p : PC} (h : Idle p) : p ≠ .inFactory ∧ p ≠ .missed ∧ ∀ ok g, p ≠ .built ok g := by
  rcases h with e | ⟨_, _, e⟩ <;> rw [e] <;> exact ⟨nofun, nofun, nofun⟩

theorem Quiet.toMid {s : LState} {τ : Nat} {t : Thread} (Q : Quiet s) (h : s.threads[τ]? = some t) :
    Mid s τ t :=
  have hi := (Q.idle τ t h).not_flying
  ⟨h, fun i ti _ hti => Q.idle i ti hti, fun e => absurd e hi.1, fun _ => Q.active, Q.maxA, Q.once,
    fun i n hm => Or.inl (Q.logged i n hm), fun e => absurd e hi.2.1⟩

theorem Mid.toQuiet {s : LState} {τ : Nat} {t : Thread} (M : Mid s τ t) (hd : Idle t.pc) :
    Quiet s := by
  have nf := hd.not_flying
  refine ⟨fun i ti hi => ?_, M.actOut nf.1, M.maxA, M.once, fun i n hm => ?_⟩
  · by_cases e : τ = i
    · subst e; rw [M.thr] at hi; cases hi; exact hd
    · exact M.others i ti e hi
  · rcases M.logged i n hm with a | ⟨_, e | ⟨_, _, e⟩⟩
    · exact a
    · exact absurd e nf.1
    · exact absurd e (nf.2.2 _ _)

/-- a step of the thread in flight keeps the others idle, the factory serial and the log free of
repeats -/
theorem Mid.move {w : World} {s s0 : LState} {τ : Nat} {t : Thread} {p p' : PC} (M : Mid s τ t)
    (hp : t.pc = p) (m : Move w s τ t.name p s0 p') :
    Mid (setThread s0 τ { t with pc := p' }) τ { t with pc := p' } := by
  have hthr : (setThread s0 τ { t with pc := p' }).threads[τ]? = some { t with pc := p' } := by
    rw [threads_setThread _ τ M.thr m.frame.1, if_pos rfl]
  have hoth : ∀ (i : Nat) (ti : Thread), τ ≠ i →
      (setThread s0 τ { t with pc := p' }).threads[i]? = some ti → Idle ti.pc := by
    intro i ti hne hi
    rw [threads_setThread _ i M.thr m.frame.1, if_neg hne] at hi
    exact M.others i ti hne hi
  have hin : ∀ k, List.lookup k s.map ≠ none → List.lookup k s0.map ≠ none := by
    intro k hk
    cases e : List.lookup k s.map with
    | none => exact absurd e hk
    | some x => rw [m.map_mono e]; nofun
  -- a move that does not touch the factory
  have quiet : s0.active = s.active → s0.maxActive = s.maxActive → s0.log = s.log →
      p ≠ .inFactory → p' ≠ .inFactory → ((∃ ok g, p = .built ok g) → List.lookup t.name s0.map ≠ none) →
      (p' = .missed → List.lookup t.name s0.map = none) →
      Mid (setThread s0 τ { t with pc := p' }) τ { t with pc := p' } := by
    intro ha hm hl np np' hb hmiss
    refine ⟨hthr, hoth, fun e => absurd e np', fun _ => ha ▸ M.actOut (hp ▸ np), hm ▸ M.maxA,
      hl ▸ M.once, fun i k hk => ?_, hmiss⟩
    have hk : (i, k) ∈ s0.log := hk
    rw [hl] at hk
    rcases M.logged i k hk with a | ⟨a, f⟩
    · exact Or.inl (hin k a)
    · rw [hp] at f
      rcases f with f | f
      · exact absurd f np
      · exact Or.inl (a ▸ hb f)
  cases m with
  | initUtc _ => exact quiet rfl rfl rfl nofun nofun nofun nofun
  | initHit _ _ _ => exact quiet rfl rfl rfl nofun nofun nofun nofun
  | initMiss _ hl => exact quiet rfl rfl rfl nofun nofun nofun fun _ => hl
  | missedFixed _ => exact quiet rfl rfl rfl nofun nofun nofun nofun
  | builtHit ok g id hl => exact quiet rfl rfl rfl nofun nofun (fun _ => by rw [hl]; nofun) nofun
  | builtMiss ok g hl =>
    exact quiet rfl rfl rfl nofun nofun (fun _ => by rw [lookup_snoc_self hl]; nofun) nofun
  | factory =>
    refine ⟨hthr, hoth, nofun, fun _ => ?_, M.maxA, M.once, fun i k hk => ?_, nofun⟩
    · show s.active.filter (· != τ) = []
      rw [M.actIn hp]; simp
    · rcases M.logged i k hk with a | ⟨a, _⟩
      · exact Or.inl a
      · exact Or.inr ⟨a, Or.inr ⟨_, _, rfl⟩⟩
  | missedFactory hf =>
    have hact := M.actOut (hp ▸ nofun)
    -- the name is not in the map, so it has not been logged before
    have hfresh : (s.log.filter fun e => e.2 == t.name) = [] := by
      rw [List.filter_eq_nil_iff]
      intro e he hn
      have e2 : e.2 = t.name := by simpa using hn
      rcases M.logged e.1 e.2 he with a | ⟨_, f⟩
      · rw [e2] at a; exact a (M.missedNone hp)
      · rw [hp] at f; rcases f with f | ⟨_, _, f⟩ <;> cases f
    refine ⟨hthr, hoth, fun _ => ?_, fun e => absurd rfl e, ?_, fun k => ?_, fun i k hk => ?_, nofun⟩
    · show s.active ++ [τ] = [τ]; rw [hact]; rfl
    · show max s.maxActive (s.active ++ [τ]).length ≤ 1
      rw [hact]; exact Nat.max_le.mpr ⟨M.maxA, Nat.le_refl _⟩
    · show ((s.log ++ [(τ, t.name)]).filter fun e => e.2 == k).length ≤ 1
      rw [List.filter_append, List.length_append]
      by_cases e : t.name = k
      · subst e; rw [hfresh]; simp
      · have : ([(τ, t.name)].filter fun e => e.2 == k) = [] := by simp [e]
        rw [this]; exact M.once k
    · have hk : (i, k) ∈ s.log ++ [(τ, t.name)] := hk
      rcases List.mem_append.mp hk with a | a
      · rcases M.logged i k a with a | ⟨_, f⟩
        · exact Or.inl a
        · rw [hp] at f; rcases f with f | ⟨_, _, f⟩ <;> cases f
      · cases List.mem_singleton.mp a
        exact Or.inr ⟨rfl, Or.inl rfl⟩

theorem Mid_step (w : World) {s : LState} {τ : Nat} {t : Thread} (M : Mid s τ t) :
    ∃ t', Mid (step w s τ) τ t' := by
  rcases step_cases w s τ with ⟨_, e⟩ | ⟨t0, s0, p', h0, m, e⟩ <;> rw [e]
  · exact ⟨t, M⟩
  · rw [M.thr] at h0; cases h0
    exact ⟨_, M.move rfl m⟩

theorem Quiet_block (w : World) {s : LState} (τ : Nat) (Q : Quiet s) :
    Quiet (run w s [τ, τ, τ, τ]) := by
  cases h : s.threads[τ]? with
  | none =>
    have e : step w s τ = s := by unfold step; rw [h]
    have : run w s [τ, τ, τ, τ] = s := by simp only [run, List.foldl, e]
    rw [this]; exact Q
  | some t =>
    obtain ⟨t1, M1⟩ := Mid_step w (Q.toMid h)
    obtain ⟨t2, M2⟩ := Mid_step w M1
    obtain ⟨t3, M3⟩ := Mid_step w M2
    obtain ⟨t4, M4⟩ := Mid_step w M3
    obtain ⟨t', ok, id, h', _, hp⟩ := block_done w h
    have e : (run w s [τ, τ, τ, τ]) = step w (step w (step w (step w s τ) τ) τ) τ := rfl
    rw [e] at h' ⊢
    rw [M4.thr] at h'; cases h'
    exact M4.toQuiet (Or.inr ⟨ok, id, hp⟩)

theorem run_append (w : World) (s : LState) (a b : List Nat) :
    run w s (a ++ b) = run w (run w s a) b := by
  simp only [run, List.foldl_append]

theorem Quiet_sequential (w : World) (order : List Nat) :
    ∀ {s : LState}, Quiet s → Quiet (run w s (order.flatMap fun τ => [τ, τ, τ, τ])) := by
  induction order with
  | nil => intro s Q; exact Q
  | cons τ rest ih =>
    intro s Q
    rw [List.flatMap_cons, run_append]
    exact ih (Quiet_block w τ Q)

theorem Quiet_init (names : List Name) : Quiet (initState names) :=
  ⟨fun _ _ h => Or.inl (initState_get h), rfl, Nat.zero_le _, fun _ => Nat.zero_le _, nofun⟩

end Cctz.Loader
