/-
  C19 — Zone names resolve as documented (decision logic of the model of
  `FileZoneInfoSource::Open`, `local_time_zone` and the loader; the file system is a parameter).
-/
import Cctz.Model.Loader
import Cctz.Proofs.LoaderInv

namespace Cctz.C19
open Cctz Cctz.Bytes Cctz.Loader

/-- names beginning with '/' (after an optional "file:" prefix) are file paths, whatever TZDIR is -/
def absolute_statement : Prop :=
  ∀ (rest : Bytes) (tzdir : Option Bytes),
    openPath (47 :: rest) tzdir = 47 :: rest ∧
    openPath (ofString "file:" ++ 47 :: rest) tzdir = 47 :: rest

/-- all other names are relative to $TZDIR, default /usr/share/zoneinfo (an empty TZDIR is ignored) -/
def relative_statement : Prop :=
  ∀ (name : Bytes) (dir : Bytes), name.headD 0 ≠ 47 → name.take 5 ≠ ofString "file:" →
    openPath name none = ofString "/usr/share/zoneinfo" ++ 47 :: name ∧
    openPath name (some []) = ofString "/usr/share/zoneinfo" ++ 47 :: name ∧
    (dir.headD 0 ≠ 0 → (∀ c ∈ dir, c ≠ 0) → openPath name (some dir) = dir ++ 47 :: name)

/-- local_time_zone(): follows $TZ ignoring one leading ':'; "localtime" maps to $LOCALTIME or else
/etc/localtime; with TZ unset the name is "localtime" -/
def local_statement : Prop :=
  (∀ lt, localZoneName none lt = localZoneName (some (ofString "localtime")) lt) ∧
  (∀ lt, localZoneName (some (ofString ":localtime")) lt = localZoneName (some (ofString "localtime")) lt) ∧
  localZoneName (some (ofString "localtime")) none = ofString "/etc/localtime" ∧
  (∀ p : Bytes, (∀ c ∈ p, c ≠ 0) → localZoneName (some (ofString "localtime")) (some p) = p) ∧
  (∀ z : Bytes, (∀ c ∈ z, c ≠ 0) → z.headD 0 ≠ 58 → z ≠ ofString "localtime" → ∀ lt, localZoneName (some z) lt = z) ∧
  (∀ z : Bytes, (∀ c ∈ z, c ≠ 0) → z ≠ ofString "localtime" → ∀ lt, localZoneName (some (58 :: z)) lt = z)

/-- UTC, UTC0 and fixed-offset names are resolved internally: the loader never reaches the data
source for them, and they always succeed -/
def internal_names_statement : Prop :=
  ∀ (w : World) (n : Name), isFixedName n = true → seqOk w n = true ∧
    ∀ (names : List Name) (sched : List Nat) (τ : Nat), (τ, n) ∉ (run w (initState names) sched).log

/-- a name that cannot be resolved, or whose data is rejected, fails — and the result is UTC -/
def failure_is_utc_statement : Prop :=
  ∀ (w : World) (names : List Name) (sched : List Nat) (i : Nat) (t : Thread) (id : Ident),
    (run w (initState names) sched).threads[i]? = some t → t.pc = .done false id → id = .utc

theorem absolute : absolute_statement := by
  intro rest tzdir
  constructor
  · unfold openPath
    simp only [ofString_file]
    simp
  · unfold openPath
    simp only [ofString_file]
    simp

theorem relative : relative_statement := by
  intro name dir h1 h2
  have hc : ∀ tz : Option Bytes, openPath name tz =
      (match tz with
        | some d => if cstr d ≠ [] then cstr d else ofString "/usr/share/zoneinfo"
        | none => ofString "/usr/share/zoneinfo") ++ [47] ++ name := by
    intro tz
    unfold openPath
    simp only [if_neg h2, List.drop_zero]
    rw [if_pos (Or.inr h1)]
    cases tz <;> rfl
  refine ⟨?_, ?_, ?_⟩
  · rw [hc]; simp
  · rw [hc]; simp [cstr]
  · intro hd hnz
    rw [hc]
    have : dir ≠ [] := by intro e; subst e; exact hd rfl
    simp only [cstr_of_noNul dir hnz, ne_eq, this, not_false_eq_true, if_true]
    simp

theorem localZoneName_plain (z : Bytes) (hz : ∀ c ∈ z, c ≠ 0) (h58 : z.headD 0 ≠ 58) (lt : Option Bytes) :
    localZoneName (some z) lt = if z = ofString "localtime" then
      (match lt with | some l => cstr l | none => ofString "/etc/localtime") else z := by
  unfold localZoneName
  simp only [cstr_of_noNul z hz, if_neg h58]
  cases lt <;> rfl

theorem localZoneName_colon (z : Bytes) (hz : ∀ c ∈ z, c ≠ 0) (lt : Option Bytes) :
    localZoneName (some (58 :: z)) lt = if z = ofString "localtime" then
      (match lt with | some l => cstr l | none => ofString "/etc/localtime") else z := by
  have : cstr (58 :: z) = 58 :: z :=
    cstr_of_noNul _ fun c hc => by
      rcases List.mem_cons.mp hc with e | e
      · subst e; decide
      · exact hz c e
  unfold localZoneName
  simp only [this, List.headD_cons, if_true, List.drop_succ_cons, List.drop_zero]
  cases lt <;> rfl

theorem local_resolution : local_statement := by
  have hc : ofString ":localtime" = 58 :: ofString "localtime" := by
    rw [ofString_colon_localtime, ofString_localtime]
  have nz : ∀ c ∈ ofString "localtime", c ≠ 0 := by rw [ofString_localtime]; decide
  have h58 : (ofString "localtime").headD 0 ≠ 58 := by rw [ofString_localtime]; decide
  have colon : ∀ lt, localZoneName (some (ofString ":localtime")) lt =
      localZoneName (some (ofString "localtime")) lt := fun lt => by
    rw [hc, localZoneName_colon _ nz, localZoneName_plain _ nz h58]
  refine ⟨fun lt => ?_, colon, ?_, fun p hp => ?_, fun z hz h58 hne lt => ?_, fun z hz hne lt => ?_⟩
  · rw [← colon]
    have : cstr (ofString ":localtime") = ofString ":localtime" :=
      cstr_of_noNul _ (by rw [ofString_colon_localtime]; decide)
    unfold localZoneName
    simp only [this]
  · rw [localZoneName_plain _ nz h58, if_pos rfl]
  · rw [localZoneName_plain _ nz h58, if_pos rfl]; exact cstr_of_noNul p hp
  · rw [localZoneName_plain z hz h58, if_neg hne]
  · rw [localZoneName_colon z hz, if_neg hne]

theorem internal_names : internal_names_statement := by
  intro w n hf
  refine ⟨by simp [seqOk, hf], ?_⟩
  intro names sched τ hm
  have := ((inv_reach w names sched).log τ n hm).1
  rw [hf] at this; cases this

theorem failure_is_utc : failure_is_utc_statement := by
  intro w names sched i t id h hp
  have := (inv_reach w names sched).thr i t h
  rw [hp] at this
  rcases this with ⟨_, a, _⟩ | ⟨_, _, c⟩
  · cases a
  · cases id with
    | utc => rfl
    | impl g => cases c

/-- the hypotheses of `relative` / `local` are satisfiable -/
example : ([120] : Bytes).headD 0 ≠ 47 ∧ ([120] : Bytes).take 5 ≠ ofString "file:" ∧
    ([47, 116] : Bytes).headD 0 ≠ 0 ∧ (∀ c ∈ ([47, 116] : Bytes), c ≠ 0) := by decide +kernel

example : isFixedName (ofString "UTC") = true := by decide +kernel

end Cctz.C19
