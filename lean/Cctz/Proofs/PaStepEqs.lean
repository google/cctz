/-
  `stepSpec` specifier by specifier: one equation for each branch, about any state whose format
  starts with that specifier.  Which branch a given byte selects is decided by evaluation; only
  the branches taken when no byte matches need the conditions one by one.
-/
import Cctz.Proofs.PaInt

namespace Cctz.Pa
open Cctz Cctz.Bytes Cctz.Format Cctz.Parse

/-- the local `int32` of `stepSpec`: the field `%c`, read by `ParseInt<int>` under the bounds `tr`
and stored by `upd` -/
def readField (st : PState) (d f : Bytes) (c : UInt8) (tr : Int × Int × Int)
    (upd : PState → Int → PState) : PState :=
  match parseInt32 d tr.1 tr.2.1 tr.2.2 with
  | some (d', v) => upd { st with data := some d', fmt := f, ghost := st.ghost ++ [(c, v)] } v
  | none => { st with data := none, fmt := f }

theorem readField_some {st : PState} {d d' f : Bytes} {c : UInt8} {tr : Int × Int × Int}
    {upd : PState → Int → PState} {v : Int} (h : parseInt32 d tr.1 tr.2.1 tr.2.2 = some (d', v)) :
    readField st d f c tr upd = upd { st with data := some d', fmt := f, ghost := st.ghost ++ [(c, v)] } v := by
  unfold readField; rw [h]

def readOffset (st : PState) (d : Bytes) (sep : UInt8) (f : Bytes) : PState :=
  match parseOffset d sep with
  | some (d', off) => { st with data := some d', fmt := f, offset := off, sawOffset := true }
  | none => { st with data := none, fmt := f }

theorem readOffset_some {st : PState} {d d' f : Bytes} {sep : UInt8} {off : Int}
    (h : parseOffset d sep = some (d', off)) :
    readOffset st d sep f = { st with data := some d', fmt := f, offset := off, sawOffset := true } := by
  unfold readOffset; rw [h]

variable (sp : Strptime) {st : PState} (d : Bytes) {f2 : Bytes}

theorem spec_space (hs : isSpace (peek st.fmt) = true) :
    stepSpec sp st d = { st with data := some (skipSpace d), fmt := skipSpace (st.fmt.drop 1) } := by
  unfold stepSpec
  exact if_pos hs

/-- also the step on an empty format, which the loop never takes -/
theorem spec_lit (hs : isSpace (peek st.fmt) = false) (hc : peek st.fmt ≠ 37) :
    stepSpec sp st d =
      if peek d = peek st.fmt ∧ d ≠ [] then { st with data := some (d.drop 1), fmt := st.fmt.drop 1 }
      else { st with data := none } := by
  unfold stepSpec
  exact (if_neg (by rw [hs]; decide)).trans (if_pos hc)

theorem spec_lone (hf : st.fmt = [37]) : stepSpec sp st d = { st with data := none, fmt := [] } := by
  cases st; cases hf; rfl

theorem spec_pct (hf : st.fmt = 37 :: 37 :: f2) :
    stepSpec sp st d =
      if peek d = 37 ∧ d ≠ [] then { st with data := some (d.drop 1), fmt := f2 }
      else { st with data := none, fmt := f2 } := by
  cases st; cases hf; rfl

theorem spec_ET (hf : st.fmt = 37 :: 69 :: f2) (he : peek f2 = 84) :
    stepSpec sp st d =
      if (peek d = 84 ∨ peek d = 116) ∧ d ≠ [] then { st with data := some (d.drop 1), fmt := f2.drop 1 }
      else { st with data := none, fmt := f2 } := by
  obtain ⟨f3, rfl⟩ := peek_eq_cons f2 84 (by decide) he
  cases st; cases hf; rfl

theorem spec_Z (hf : st.fmt = 37 :: 90 :: f2) :
    stepSpec sp st d =
      match parseZone d with
      | some d' => { st with data := some d', fmt := f2 }
      | none => { st with data := none, fmt := f2 } := by
  cases st; cases hf; rfl

theorem spec_Y (hf : st.fmt = 37 :: 89 :: f2) :
    stepSpec sp st d =
      match parseInt64 d 0 i64min i64max with
      | some (d', v) =>
        { st with data := some d', fmt := f2, year := v, sawYear := true, ghost := st.ghost ++ [(89, v)] }
      | none => { st with data := none, fmt := f2 } := by
  cases st; cases hf; rfl

theorem spec_s (hf : st.fmt = 37 :: 115 :: f2) :
    stepSpec sp st d =
      match parseInt64 d 0 i64min i64max with
      | some (d', v) => { st with data := some d', fmt := f2, percentS := v, sawPercentS := true }
      | none => { st with data := none, fmt := f2 } := by
  cases st; cases hf; rfl

theorem spec_E4Y (hf : st.fmt = 37 :: 69 :: f2) (he : peek f2 = 52 ∧ peek (f2.drop 1) = 89) :
    stepSpec sp st d =
      match parseInt64 d Gen.parse_E4Y.1 Gen.parse_E4Y.2.1 Gen.parse_E4Y.2.2 with
      | some (d', v) =>
        if d.length - d'.length = 4 then
          { st with data := some d', fmt := f2.drop 2, year := v, sawYear := true,
                    ghost := st.ghost ++ [(52, v)] }
        else { st with data := none, fmt := f2.drop 2, year := v }
      | none => { st with data := none, fmt := f2.drop 2 } := by
  obtain ⟨f3, rfl⟩ := peek_eq_cons f2 52 (by decide) he.1
  obtain ⟨f4, rfl⟩ := peek_eq_cons f3 89 (by decide) he.2
  cases st; cases hf; rfl

theorem spec_m (hf : st.fmt = 37 :: 109 :: f2) :
    stepSpec sp st d =
      { readField st d f2 109 Gen.parse_m fun s v => { s with tm := { s.tm with mon := v - 1 } } with
        weekNum := -1 } := by
  cases st; cases hf; rfl

theorem spec_d (hf : st.fmt = 37 :: 100 :: f2) :
    stepSpec sp st d =
      { readField st d f2 100 Gen.parse_d fun s v => { s with tm := { s.tm with mday := v } } with
        weekNum := -1 } := by
  cases st; cases hf; rfl

theorem spec_e (hf : st.fmt = 37 :: 101 :: f2) :
    stepSpec sp st d =
      let (d1, w) := if peek d = 32 ∧ d ≠ [] then (d.drop 1, Gen.parse_e.1 - 1) else (d, Gen.parse_e.1)
      { readField st d1 f2 101 (w, Gen.parse_e.2) fun s v => { s with tm := { s.tm with mday := v } } with
        weekNum := -1 } := by
  cases st; cases hf; rfl

theorem spec_U (hf : st.fmt = 37 :: 85 :: f2) :
    stepSpec sp st d =
      { readField st d f2 85 Gen.parse_U fun s v => { s with weekNum := v } with
        weekStartSunday := true } := by
  cases st; cases hf; rfl

theorem spec_W (hf : st.fmt = 37 :: 87 :: f2) :
    stepSpec sp st d =
      { readField st d f2 87 Gen.parse_W fun s v => { s with weekNum := v } with
        weekStartSunday := false } := by
  cases st; cases hf; rfl

theorem spec_u (hf : st.fmt = 37 :: 117 :: f2) :
    stepSpec sp st d =
      readField st d f2 117 Gen.parse_u fun s v => { s with tm := { s.tm with wday := cmod v 7 } } := by
  cases st; cases hf; rfl

theorem spec_w (hf : st.fmt = 37 :: 119 :: f2) :
    stepSpec sp st d =
      readField st d f2 119 Gen.parse_w fun s v => { s with tm := { s.tm with wday := v } } := by
  cases st; cases hf; rfl

theorem spec_H (hf : st.fmt = 37 :: 72 :: f2) :
    stepSpec sp st d =
      { readField st d f2 72 Gen.parse_H fun s v => { s with tm := { s.tm with hour := v } } with
        twelveHour := false } := by
  cases st; cases hf; rfl

theorem spec_M (hf : st.fmt = 37 :: 77 :: f2) :
    stepSpec sp st d =
      readField st d f2 77 Gen.parse_M fun s v => { s with tm := { s.tm with min := v } } := by
  cases st; cases hf; rfl

theorem spec_S (hf : st.fmt = 37 :: 83 :: f2) :
    stepSpec sp st d =
      readField st d f2 83 Gen.parse_S fun s v => { s with tm := { s.tm with sec := v } } := by
  cases st; cases hf; rfl

theorem spec_z (hf : st.fmt = 37 :: 122 :: f2) : stepSpec sp st d = readOffset st d 0 f2 := by
  cases st; cases hf; rfl

/-- what follows `%:` in `%:z`, `%::z`, `%:::z` -/
def ColonZ (f2 : Bytes) : Prop :=
  peek f2 = 122 ∨ (peek f2 = 58 ∧ (peek (f2.drop 1) = 122 ∨ (peek (f2.drop 1) = 58 ∧ peek (f2.drop 2) = 122)))

theorem spec_colon (hf : st.fmt = 37 :: 58 :: f2) (h : ColonZ f2) :
    stepSpec sp st d =
      readOffset st d 58
        (f2.drop (if peek f2 = 122 then 1 else if peek (f2.drop 1) = 122 then 2 else 3)) := by
  rcases h with h | ⟨h1, h | ⟨h2, h3⟩⟩
  · obtain ⟨f3, rfl⟩ := peek_eq_cons f2 122 (by decide) h
    cases st; cases hf; rfl
  · obtain ⟨f3, rfl⟩ := peek_eq_cons f2 58 (by decide) h1
    obtain ⟨f4, rfl⟩ := peek_eq_cons f3 122 (by decide) h
    cases st; cases hf; rfl
  · obtain ⟨f3, rfl⟩ := peek_eq_cons f2 58 (by decide) h1
    obtain ⟨f4, rfl⟩ := peek_eq_cons f3 58 (by decide) h2
    obtain ⟨f5, rfl⟩ := peek_eq_cons f4 122 (by decide) h3
    cases st; cases hf; rfl

theorem spec_Ez (hf : st.fmt = 37 :: 69 :: f2)
    (he : peek f2 = 122 ∨ (peek f2 = 42 ∧ peek (f2.drop 1) = 122)) :
    stepSpec sp st d = readOffset st d 58 (f2.drop (if peek f2 = 122 then 1 else 2)) := by
  rcases he with h | ⟨h1, h2⟩
  · obtain ⟨f3, rfl⟩ := peek_eq_cons f2 122 (by decide) h
    cases st; cases hf; rfl
  · obtain ⟨f3, rfl⟩ := peek_eq_cons f2 42 (by decide) h1
    obtain ⟨f4, rfl⟩ := peek_eq_cons f3 122 (by decide) h2
    cases st; cases hf; rfl

theorem spec_EstarS (hf : st.fmt = 37 :: 69 :: f2) (he : peek f2 = 42 ∧ peek (f2.drop 1) = 83) :
    stepSpec sp st d = { parseSecFrac st d with fmt := f2.drop 2 } := by
  obtain ⟨f3, rfl⟩ := peek_eq_cons f2 42 (by decide) he.1
  obtain ⟨f4, rfl⟩ := peek_eq_cons f3 83 (by decide) he.2
  cases st; cases hf; rfl

theorem spec_Estarf (hf : st.fmt = 37 :: 69 :: f2) (he : peek f2 = 42 ∧ peek (f2.drop 1) = 102) :
    stepSpec sp st d = { parseFrac st d with fmt := f2.drop 2 } := by
  obtain ⟨f3, rfl⟩ := peek_eq_cons f2 42 (by decide) he.1
  obtain ⟨f4, rfl⟩ := peek_eq_cons f3 102 (by decide) he.2
  cases st; cases hf; rfl

/-- the specifier letters `parse` reads itself -/
def ownSpecs : List UInt8 := [89, 109, 100, 101, 85, 87, 117, 119, 72, 77, 83, 122, 90, 115, 37, 69, 79]

theorem spec_O (hf : st.fmt = 37 :: 79 :: f2) :
    stepSpec sp st d =
      let f3 := if !f2.isEmpty then f2.drop 1 else f2
      viaStrptime sp
        (if peek f2 = 72 then { st with twelveHour := false }
         else if peek f2 = 73 then { st with twelveHour := true } else st)
        d (st.fmt.take (st.fmt.length - f3.length)) f3 := by
  cases st; cases hf; rfl

theorem spec_other {c : UInt8} (hf : st.fmt = 37 :: c :: f2) (hc : c ∉ ownSpecs)
    (h58 : ¬ (c = 58 ∧ ColonZ f2)) :
    stepSpec sp st d =
      viaStrptime sp
        (if c = 73 ∨ c = 108 ∨ c = 114 then { st with twelveHour := true }
         else if c = 82 ∨ c = 84 ∨ c = 99 ∨ c = 88 then { st with twelveHour := false } else st)
        d (st.fmt.take (st.fmt.length - f2.length)) f2 := by
  simp only [ownSpecs, List.mem_cons, List.not_mem_nil, or_false, not_or] at hc
  unfold ColonZ peek at h58
  cases st; cases hf
  have hsp : isSpace 37 = false := by decide
  simp only [stepSpec, peek, List.headD_cons, List.drop_succ_cons, List.drop_zero, hsp, ne_eq, not_true, List.isEmpty_cons,
    Bool.false_eq_true, hc, h58, if_false]

/-- `%E` followed by none of `T`, `z`, `*z`, `*S`, `*f`, `4Y`: `%E<n>S` or `%E<n>f` with `n ≤ 1024`, else
strptime.  The branches before `%E` are skipped by evaluating their tests. -/
theorem spec_E_rest (hf : st.fmt = 37 :: 69 :: f2) (h1 : peek f2 ≠ 84)
    (h2 : ¬ (peek f2 = 122 ∨ (peek f2 = 42 ∧ peek (f2.drop 1) = 122)))
    (h3 : ¬ (peek f2 = 42 ∧ peek (f2.drop 1) = 83)) (h4 : ¬ (peek f2 = 42 ∧ peek (f2.drop 1) = 102))
    (h5 : ¬ (peek f2 = 52 ∧ peek (f2.drop 1) = 89)) :
    stepSpec sp st d =
      let np := f2.dropWhile isDigit
      let f3 := if peek f2 ≠ 0 ∧ !f2.isEmpty then f2.drop 1 else f2
      if isDigit (peek f2) = true ∧ (parseInt32 f2 0 0 1024).isSome = true ∧ peek np = 83 then
        { parseSecFrac st d with fmt := np.drop 1 }
      else if isDigit (peek f2) = true ∧ (parseInt32 f2 0 0 1024).isSome = true ∧ peek np = 102 then
        { parseFrac st d with fmt := np.drop 1 }
      else
        viaStrptime sp (if peek f2 = 99 ∨ peek f2 = 88 then { st with twelveHour := false } else st) d
          (st.fmt.take (st.fmt.length - f3.length)) f3 := by
  cases st; cases hf
  unfold stepSpec
  repeat refine (if_neg (of_decide_eq_false rfl)).trans ?_
  refine (if_pos rfl).trans ((if_neg h1).trans ((if_neg h2).trans ((if_neg h3).trans ((if_neg h4).trans
    ((if_neg h5).trans ?_)))))
  simp only [List.drop_succ_cons, List.drop_zero]
  by_cases hd : isDigit (peek f2) = true
  · cases hp : parseInt32 f2 0 0 1024 with
    | none => simp only [hd, if_true, Option.isSome_none, Bool.false_eq_true, false_and, and_false, if_false]
    | some p =>
      by_cases h83 : peek (f2.dropWhile isDigit) = 83
      · simp only [hd, h83, if_true, Option.isSome_some, and_self]
      · by_cases h102 : peek (f2.dropWhile isDigit) = 102
        · simp only [hd, h102, if_true, Option.isSome_some, and_self, and_false, if_false,
            show ¬ (102 : UInt8) = 83 by decide]
        · simp only [hd, h83, h102, if_true, Option.isSome_some, and_false, if_false]
  · simp only [hd, Bool.false_eq_true, if_false, false_and]

end Cctz.Pa
