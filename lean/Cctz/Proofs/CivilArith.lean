/-
  Civil-time arithmetic: `step`, `civilAdd`, `civilSub`, `difference`, `lt` against the
  specification (`Spec.unitNum`, `Spec.secNum`).
-/
import Cctz.Proofs.CivilNorm

namespace Cctz
open Cctz.Spec

theorem year_le_of_unitNum_le (t : Tag) {a b : Fields} (va : Valid a) (vb : Valid b)
    (ha : Aligned t a) (hb : Aligned t b) (h : unitNum t a ≤ unitNum t b) : a.y ≤ b.y := by
  by_cases hlt : b.y < a.y
  · have : FieldsLex b a := Or.inl (Or.inl hlt)
    have := (unitNum_lt_iff_lex t vb va hb ha).mpr this
    omega
  · omega

/-- the month step on a value whose day is `1`: the result is the first of the carried month -/
theorem step_month (a : Fields) (n : Int) (va : Valid a) (hd : a.d = 1) :
    (Civil.step .month a n).val =
      ⟨a.y + cdiv n 12 + (a.m + cmod n 12 - 1) / 12, (a.m + cmod n 12 - 1) % 12 + 1, 1,
        a.hh, a.mm, a.ss⟩ := by
  obtain ⟨a1, a2, a3, a4, a5, a6, a7, a8, a9, a10⟩ := va
  simp only [Civil.step, Ck.bindv, chk64_val]
  have h := nMon_norm (a.y + cdiv n 12) (a.m + cmod n 12) a.d 0 a.hh a.mm a.ss
  generalize (Civil.nMon (a.y + cdiv n 12) (a.m + cmod n 12) a.d 0 a.hh a.mm a.ss).val = s at h ⊢
  have hp := daysInMonth_pos (a.y + cdiv n 12 + (a.m + cmod n 12 - 1) / 12)
    ((a.m + cmod n 12 - 1) % 12 + 1)
  have hv : ValidDate (a.y + cdiv n 12 + (a.m + cmod n 12 - 1) / 12)
      ((a.m + cmod n 12 - 1) % 12 + 1) 1 := ⟨by omega, by omega, by omega, by omega⟩
  have hday := h.day
  rw [hd, Int.add_zero] at hday
  obtain ⟨e1, e2, e3⟩ := dayNum_inj h.date hv hday
  cases s
  simp only [Fields.mk.injEq]
  exact ⟨e1, e2, e3, h.hh, h.mm, h.ss⟩


theorem step_spec (t : Tag) (a : Fields) (n : Int) (va : Valid a) (ha : Aligned t a) :
    Valid (Civil.step t a n).val ∧ Aligned t (Civil.step t a n).val ∧
      unitNum t (Civil.step t a n).val = unitNum t a + n := by
  obtain ⟨a1, a2, a3, a4, a5, a6, a7, a8, a9, a10⟩ := id va
  cases t <;> simp only [Aligned] at ha
  · simp only [Civil.step, Ck.bindv, chk64_val]
    have h := nSec_norm a.y a.m a.d a.hh (a.mm + cdiv n 60) (a.ss + cmod n 60)
    have hn := cdiv_cmod n 60
    refine ⟨h.valid (by omega) (by omega) (by omega), trivial, ?_⟩
    rw [unitNum, h.secNum, monthDay_of_range _ _ _ a1 a2, unitNum, secNum]
    omega
  · simp only [Civil.step, Ck.bindv, chk64_val]
    have h := nMin_norm a.y a.m a.d (a.hh + cdiv n 60) 0 (a.mm + cmod n 60) a.ss
    have hn := cdiv_cmod n 60
    refine ⟨h.valid (by omega) (by omega) (by omega), h.ss.trans ha, ?_⟩
    simp only [unitNum, h.day, h.hh, h.mm, monthDay_of_range _ _ _ a1 a2]
    omega
  · simp only [Civil.step, Ck.bindv, chk64_val]
    have h := nHour_norm a.y a.m (a.d + cdiv n 24) 0 (a.hh + cmod n 24) a.mm a.ss
    have hn := cdiv_cmod n 24
    refine ⟨h.valid (by omega) (by omega) (by omega), ⟨h.ss.trans ha.1, h.mm.trans ha.2⟩, ?_⟩
    simp only [unitNum, h.day, h.hh, monthDay_of_range _ _ _ a1 a2]
    have := dayNum_linear a.y a.m a.d (cdiv n 24)
    omega
  · have h := nDay_norm a.y a.m a.d n a.hh a.mm a.ss a1 a2
    exact ⟨h.valid (by omega) (by omega) (by omega),
      ⟨h.ss.trans ha.1, h.mm.trans ha.2.1, h.hh.trans ha.2.2⟩, h.day⟩
  · rw [step_month a n va ha.2.2.2]
    have hn := cdiv_cmod n 12
    have hp := daysInMonth_pos (a.y + cdiv n 12 + (a.m + cmod n 12 - 1) / 12)
      ((a.m + cmod n 12 - 1) % 12 + 1)
    refine ⟨?_, ?_, ?_⟩
    · simp only [Valid]; omega
    · simp only [Aligned, and_true]; omega
    · simp only [unitNum]; omega
  · simp only [Civil.step, Ck.bindv, chk64_val, Ck.pure_val]
    have hp := daysInMonth_pos (a.y + n) a.m
    refine ⟨?_, ?_, ?_⟩
    · simp only [Valid]; omega
    · simp only [Aligned]; omega
    · simp only [unitNum]

theorem civilAdd_spec (t : Tag) (a : Fields) (n : Int) (va : Valid a) (ha : Aligned t a) :
    Valid (Civil.civilAdd t a n).val ∧ Aligned t (Civil.civilAdd t a n).val ∧
      unitNum t (Civil.civilAdd t a n).val = unitNum t a + n := by
  have h := step_spec t a n va ha
  rwa [Civil.civilAdd, Ck.map_val, align_of_aligned t _ h.2.1]

theorem civilSub_spec (t : Tag) (a : Fields) (n : Int) (va : Valid a) (ha : Aligned t a) :
    Valid (Civil.civilSub t a n).val ∧ Aligned t (Civil.civilSub t a n).val ∧
      unitNum t (Civil.civilSub t a n).val = unitNum t a - n := by
  unfold Civil.civilSub
  by_cases hn : n = i64min
  · subst hn
    simp only [bne_self_eq_false, Bool.false_eq_true, if_false, Ck.bindv, chk64_val, Ck.map_val]
    obtain ⟨v1, al1, u1⟩ := step_spec t a (-(i64min + 1)) va ha
    obtain ⟨v2, al2, u2⟩ := step_spec t _ 1 v1 al1
    rw [align_of_aligned t _ al2]
    exact ⟨v2, al2, by rw [u2, u1]; omega⟩
  · have hne : (n != i64min) = true := by simpa using hn
    simp only [hne, if_true, Ck.bindv, chk64_val, Ck.map_val]
    obtain ⟨v1, al1, u1⟩ := step_spec t a (-n) va ha
    rw [align_of_aligned t _ al1]
    exact ⟨v1, al1, by rw [u1]; omega⟩

theorem scaleAdd_val (v f a : Int) : (Civil.scaleAdd v f a).val = v * f + a := by
  unfold Civil.scaleAdd
  split <;> simp only [Ck.bindv, chk64_val]
  · rw [Int.add_mul]; omega
  · rw [Int.sub_mul]; omega

theorem era_floor (e : Int) : cdiv (if e ≥ 0 then e else e - 399) 400 = e / 400 := by
  rw [cdiv_eq]; omega

theorem doy_val (m : Int) (h1 : 1 ≤ m) (h2 : m ≤ 12) :
    cdiv (153 * (m + (if m > 2 then -3 else 9)) + 2) 5 + 59 + (if m ≤ 2 then -365 else 0) = cumDays m := by
  rcases month_cases h1 h2 with h | h | h | h | h | h | h | h | h | h | h | h <;> subst h <;> decide

theorem ymdOrd_val (y m d : Int) (h1 : 1 ≤ m) (h2 : m ≤ 12) :
    (Civil.ymdOrd y m d).val = dayNum y m d := by
  rw [dayNum_alt]
  unfold Civil.ymdOrd
  simp only [Ck.bindv, chk64_val, Ck.pure_val, Ck.ite_val]
  have hdoy := doy_val m h1 h2
  generalize cdiv (153 * (m + (if m > 2 then -3 else 9)) + 2) 5 = doy at hdoy ⊢
  generalize hE : (if m ≤ 2 then y - 1 else y) = E
  have hE' : E = y + b2i (decide (m > 2)) - 1 := by
    simp only [b2i, decide_eq_true_eq]; omega
  rw [← hE']
  have he := era_floor E
  have hd : 365 * E + leapsThrough E =
      146097 * (E / 400) + ((E % 400) * 365 + (E % 400) / 4 - (E % 400) / 100) := by
    simp only [leapsThrough]; omega
  simp only [ge_iff_le] at he ⊢
  rw [he]
  have hyoe : E - E / 400 * 400 = E % 400 := by omega
  rw [hyoe]
  have h4 := cdiv_eq (E % 400) 4
  have h100 := cdiv_eq (E % 400) 100
  rw [h4, h100]
  generalize cumDays m = cm at *
  generalize leapsThrough E = L at *
  omega

/-- the sign fix-up of `day_difference` -/
def ddAdjust (c4 delta : Int) : Ck (Int × Int) :=
  if c4 > 0 ∧ delta < 0 then do
    let dl ← chk64 (delta + 2 * 146097); let c ← chk64 (c4 - 2 * 400); pure (c, dl)
  else if c4 < 0 ∧ delta > 0 then do
    let dl ← chk64 (delta - 2 * 146097); let c ← chk64 (c4 + 2 * 400); pure (c, dl)
  else pure (c4, delta)

theorem dayDifference_eq (y1 m1 d1 y2 m2 d2 : Int) :
    Civil.dayDifference y1 m1 d1 y2 m2 d2 = (do
      let ya ← chk64 (y1 - cmod y1 400)
      let yb ← chk64 (y2 - cmod y2 400)
      let c4 ← chk64 (ya - yb)
      let oa ← Civil.ymdOrd (cmod y1 400) m1 d1
      let ob ← Civil.ymdOrd (cmod y2 400) m2 d2
      let delta ← chk64 (oa - ob)
      let p ← ddAdjust c4 delta
      let q ← chk64 (cdiv p.1 400 * 146097)
      chk64 (q + p.2)) := rfl

theorem ddAdjust_val (c4 delta : Int) (k : Int) (hk : c4 = 400 * k) :
    cdiv (ddAdjust c4 delta).val.1 400 * 146097 + (ddAdjust c4 delta).val.2 = 146097 * k + delta := by
  unfold ddAdjust
  split
  · simp only [Ck.bindv, chk64_val, Ck.pure_val, cdiv_eq _ 400]; omega
  · split
    · simp only [Ck.bindv, chk64_val, Ck.pure_val, cdiv_eq _ 400]; omega
    · simp only [Ck.pure_val, cdiv_eq _ 400]; omega

theorem dayDifference_val (y1 m1 d1 y2 m2 d2 : Int) (h1 : 1 ≤ m1) (h2 : m1 ≤ 12)
    (h3 : 1 ≤ m2) (h4 : m2 ≤ 12) :
    (Civil.dayDifference y1 m1 d1 y2 m2 d2).val = dayNum y1 m1 d1 - dayNum y2 m2 d2 := by
  rw [dayDifference_eq]
  simp only [Ck.bindv, chk64_val, ymdOrd_val _ _ _ h1 h2, ymdOrd_val _ _ _ h3 h4]
  have e1 := cdiv_cmod y1 400
  have e2 := cdiv_cmod y2 400
  rw [ddAdjust_val _ _ (cdiv y1 400 - cdiv y2 400) (by omega)]
  have f1 := dayNum_add_400_mul (cmod y1 400) (cdiv y1 400) m1 d1
  have f2 := dayNum_add_400_mul (cmod y2 400) (cdiv y2 400) m2 d2
  rw [show cmod y1 400 + 400 * cdiv y1 400 = y1 by omega] at f1
  rw [show cmod y2 400 + 400 * cdiv y2 400 = y2 by omega] at f2
  omega

theorem difference_val (t : Tag) (a b : Fields) (va : Valid a) (vb : Valid b)
    (ha : Aligned t a) (hb : Aligned t b) :
    (Civil.difference t a b).val = unitNum t a - unitNum t b := by
  have hd := dayDifference_val a.y a.m a.d b.y b.m b.d va.1 va.2.1 vb.1 vb.2.1
  cases t <;> simp only [Aligned] at ha hb <;>
    simp only [Civil.difference, Ck.bindv, chk64_val, scaleAdd_val, hd, unitNum, secNum] <;> omega


theorem lt_iff_lex (a b : Fields) : Civil.lt a b = true ↔ FieldsLex a b := by
  simp only [Civil.lt, FieldsLex, DateLex, Bool.or_eq_true, Bool.and_eq_true, decide_eq_true_eq,
    beq_iff_eq]
  omega

theorem eq_iff (a b : Fields) : Civil.eq a b = true ↔ a = b := by
  cases a; cases b
  simp only [Civil.eq, Bool.and_eq_true, beq_iff_eq, Fields.mk.injEq, and_assoc]

theorem lt_iff_secNum {a b : Fields} (va : Valid a) (vb : Valid b) :
    Civil.lt a b = true ↔ secNum a < secNum b := by
  rw [lt_iff_lex, secNum_lt_iff_lex va vb]

theorem le_iff_secNum {a b : Fields} (va : Valid a) (vb : Valid b) :
    Civil.le a b = true ↔ secNum a ≤ secNum b := by
  have := lt_iff_secNum vb va
  simp only [Civil.le, Bool.not_eq_true', ← Bool.not_eq_true]
  rw [this]; omega

theorem eq_iff_secNum {a b : Fields} (va : Valid a) (vb : Valid b) :
    Civil.eq a b = true ↔ secNum a = secNum b := by
  rw [eq_iff]
  exact ⟨fun h => by rw [h], secNum_inj va vb⟩

/-! ## no flag is raised by `step` / `civilAdd` / `civilSub` -/

theorem month_hyps (y m : Int) (h1 : 1 ≤ m) (h2 : m ≤ 12) (hy : inI64 y) :
    (m ≠ 12 → inI64 (y + Int.tdiv m 12)) ∧ inI64 (y + (m - 1) / 12) := by
  have := cdiv_eq m 12
  constructor
  · intro hm
    rw [show Int.tdiv m 12 = 0 from by unfold cdiv at this; omega, Int.add_zero]; exact hy
  · rw [show (m - 1) / 12 = 0 by omega, Int.add_zero]; exact hy

theorem step_ok (t : Tag) (a : Fields) (n : Int) (va : Valid a) (ha : Aligned t a)
    (hy : inI64 a.y) (hn : inI64 n) (hres : inI64 (Civil.step t a n).val.y) :
    (Civil.step t a n).ok := by
  obtain ⟨hy1, hy2⟩ := month_hyps a.y a.m va.1 va.2.1 hy
  have vd := valid_date va
  have hp := daysInMonth_pos a.y a.m
  obtain ⟨a1, a2, a3, a4, a5, a6, a7, a8, a9, a10⟩ := va
  simp only [inI64, i64min, i64max] at hn
  cases t
  · -- second
    simp only [Civil.step, Ck.bindv, chk64_val] at hres
    simp only [Civil.step, Ck.bind_ok, chk64_ok, chk64_val]
    have h1 := cdiv_cmod n 60
    have h2 := cmod_range n (k := 60) (by decide)
    refine ⟨inI64_of_bounds (by omega), inI64_of_bounds (by omega),
      nSec_ok _ _ _ _ _ _ (inI64_of_bounds (by omega))
        (inI64_of_bounds (by omega)) (inI64_of_bounds (by omega))
        (inI64_of_bounds (by omega)) hy1 hy2 hres⟩
  · -- minute
    simp only [Civil.step, Ck.bindv, chk64_val] at hres
    simp only [Civil.step, Ck.bind_ok, chk64_ok, chk64_val]
    have h1 := cdiv_cmod n 60
    have h2 := cmod_range n (k := 60) (by decide)
    refine ⟨inI64_of_bounds (by omega), inI64_of_bounds (by omega),
      nMin_ok _ _ _ _ _ _ _ (inI64_of_bounds (by omega))
        (inI64_of_bounds (by omega)) (by omega)
        (inI64_of_bounds (by omega)) hy1 hy2 hres⟩
  · -- hour
    simp only [Civil.step, Ck.bindv, chk64_val] at hres
    simp only [Civil.step, Ck.bind_ok, chk64_ok, chk64_val]
    have h1 := cdiv_cmod n 24
    have h2 := cmod_range n (k := 24) (by decide)
    refine ⟨inI64_of_bounds (by omega), inI64_of_bounds (by omega),
      nHour_ok _ _ _ _ _ _ _ (inI64_of_bounds (by omega)) (by omega)
        (inI64_of_bounds (by omega)) hy1 hy2 hres⟩
  · -- day
    simp only [Civil.step] at hres ⊢
    exact nDay_ok _ _ _ _ _ _ _ a1 a2 (inI64_of_bounds (by omega))
      (inI64_of_bounds (by omega)) hres
  · -- month
    have hres' := hres
    simp only [Aligned] at ha
    rw [step_month a n ⟨a1, a2, a3, a4, a5, a6, a7, a8, a9, a10⟩ ha.2.2.2] at hres'
    simp only [Civil.step, Ck.bindv, chk64_val] at hres
    simp only [Civil.step, Ck.bind_ok, chk64_ok, chk64_val]
    have h1 := cdiv_cmod n 12
    have h2 := cmod_range n (k := 12) (by decide)
    have h3 := cdiv_cmod (a.m + cmod n 12) 12
    have h4 := cmod_range (a.m + cmod n 12) (k := 12) (by decide)
    have h5 := cmod_sign (a.m + cmod n 12) 12
    have h6 := cmod_sign n 12
    simp only [inI64, i64min, i64max] at hy hres'
    have hya : inI64 (a.y + cdiv n 12) := inI64_of_bounds (by omega)
    refine ⟨hya, inI64_of_bounds (by omega),
      nMon_ok _ _ _ _ _ _ _ (inI64_of_bounds (by omega)) (by decide)
        (fun _ => show inI64 (a.y + cdiv n 12 + cdiv (a.m + cmod n 12) 12) from
          inI64_of_bounds (by omega))
        (inI64_of_bounds (by omega)) hres⟩
  · -- year
    simp only [Civil.step, Ck.bindv, chk64_val, Ck.pure_val] at hres
    simp only [Civil.step, Ck.bind_ok, chk64_ok, Ck.pure_ok, and_true]
    exact hres

theorem align_y (t : Tag) (f : Fields) : (Civil.align t f).y = f.y := by
  cases t <;> rfl

theorem civilAdd_ok (t : Tag) (a : Fields) (n : Int) (va : Valid a) (ha : Aligned t a)
    (hy : inI64 a.y) (hn : inI64 n) (hres : inI64 (Civil.civilAdd t a n).val.y) :
    (Civil.civilAdd t a n).ok := by
  unfold Civil.civilAdd at hres ⊢
  rw [Ck.map_val, align_y] at hres
  rw [Ck.map_ok]
  exact step_ok t a n va ha hy hn hres

theorem civilSub_ok (t : Tag) (a : Fields) (n : Int) (va : Valid a) (ha : Aligned t a)
    (hy : inI64 a.y) (hn : inI64 n) (hres : inI64 (Civil.civilSub t a n).val.y) :
    (Civil.civilSub t a n).ok := by
  unfold Civil.civilSub at hres ⊢
  by_cases hmin : n = i64min
  · subst hmin
    simp only [bne_self_eq_false, Bool.false_eq_true, if_false, Ck.bindv, chk64_val, Ck.map_val,
      align_y] at hres
    simp only [bne_self_eq_false, Bool.false_eq_true, if_false, Ck.bind_ok, chk64_ok, chk64_val,
      Ck.map_ok]
    obtain ⟨v1, al1, u1⟩ := step_spec t a (-(i64min + 1)) va ha
    obtain ⟨v2, al2, u2⟩ := step_spec t _ 1 v1 al1
    have hle1 := year_le_of_unitNum_le t va v1 ha al1 (by rw [u1]; simp only [i64min]; omega)
    have hle2 := year_le_of_unitNum_le t v1 v2 al1 al2 (by rw [u2]; omega)
    have hy1 : inI64 (Civil.step t a (-(i64min + 1))).val.y := by
      simp only [inI64] at hy hres ⊢; omega
    exact ⟨by decide, by decide, step_ok t a _ va ha hy (by decide) hy1,
      step_ok t _ 1 v1 al1 hy1 (by decide) hres⟩
  · have hne : (n != i64min) = true := by simpa using hmin
    simp only [hne, if_true, Ck.bindv, chk64_val, Ck.map_val, align_y] at hres
    simp only [hne, if_true, Ck.bind_ok, chk64_ok, chk64_val, Ck.map_ok]
    have hneg : inI64 (-n) := by
      simp only [inI64, i64min, i64max] at hn hmin ⊢; omega
    exact ⟨hneg, step_ok t a (-n) va ha hy hneg hres⟩

/-! ## no flag is raised by `difference` -/

theorem inI64_congr {x y : Int} (h : inI64 x) (e : x = y) : inI64 y := e ▸ h

theorem inI64_of_scale {v f a : Int} (hf : 0 < f) (ha : -f < a ∧ a < f) (h : inI64 (v * f + a)) :
    inI64 v := by
  simp only [inI64, i64min, i64max] at h ⊢
  constructor
  · refine Int.not_lt.mp fun hc => ?_
    have : v * f ≤ (-9223372036854775809) * f := Int.mul_le_mul_of_nonneg_right (by omega) (by omega)
    omega
  · refine Int.not_lt.mp fun hc => ?_
    have : 9223372036854775808 * f ≤ v * f := Int.mul_le_mul_of_nonneg_right (by omega) (by omega)
    omega

theorem scaleAdd_ok (v f a : Int) (hf : 0 < f) (hf2 : f ≤ 1000) (ha : -f < a ∧ a < f)
    (hr : inI64 (v * f + a)) : (Civil.scaleAdd v f a).ok := by
  have hv := inI64_of_scale hf ha hr
  unfold Civil.scaleAdd
  simp only [inI64, i64min, i64max] at hv hr
  split
  · next h =>
    have hP : v * f ≤ (-1) * f := Int.mul_le_mul_of_nonneg_right (by omega) (by omega)
    simp only [Ck.bind_ok, chk64_ok, chk64_val, Int.add_mul, Int.one_mul, inI64, i64min, i64max]
    generalize v * f = P at *
    omega
  · next h =>
    have hP : 0 ≤ v * f := Int.mul_nonneg (by omega) (by omega)
    simp only [Ck.bind_ok, chk64_ok, chk64_val, Int.sub_mul, Int.one_mul, inI64, i64min, i64max]
    generalize v * f = P at *
    omega

theorem daysBeforeMonth_bound (y m : Int) (h1 : 1 ≤ m) (h2 : m ≤ 12) :
    0 ≤ daysBeforeMonth y m ∧ daysBeforeMonth y m ≤ 335 := by
  rw [daysBeforeMonth_eq y m h1 h2]
  cases isLeap y <;> simp <;> omega

theorem ymdOrd_ok (y m d : Int) (hy : -400 < y ∧ y < 400) (h1 : 1 ≤ m) (h2 : m ≤ 12)
    (hd : 1 ≤ d ∧ d ≤ 31) : (Civil.ymdOrd y m d).ok := by
  unfold Civil.ymdOrd
  simp only [Ck.bind_ok, chk64_ok, chk64_val, Ck.pure_val, Ck.ite_val, Ck.ite_ok, Ck.pure_ok]
  generalize hE : (if m ≤ 2 then y - 1 else y) = E
  have hEb : -401 ≤ E ∧ E < 400 := by omega
  have he := era_floor E
  simp only [ge_iff_le] at he ⊢
  rw [he]
  have hdoy := doy_val m h1 h2
  have hcm : 0 ≤ cumDays m ∧ cumDays m ≤ 334 := by rw [cumDays_eq m h1 h2]; omega
  generalize cdiv (153 * (m + (if m > 2 then -3 else 9)) + 2) 5 = doy at hdoy ⊢
  rw [show E - E / 400 * 400 = E % 400 by omega, cdiv_of_nonneg 4 (by omega),
    cdiv_of_nonneg 100 (by omega)]
  -- every intermediate value is small: only the ranges of the quotients matter from here on
  have hq : -2 ≤ E / 400 ∧ E / 400 ≤ 0 := by omega
  have hr : 0 ≤ E % 400 / 4 ∧ E % 400 / 4 ≤ 99 ∧ 0 ≤ E % 400 / 100 ∧ E % 400 / 100 ≤ 3 ∧
      0 ≤ E % 400 ∧ E % 400 < 400 := by omega
  generalize E / 400 = q at hq ⊢
  generalize E % 400 / 4 = a at hr ⊢
  generalize E % 400 / 100 = b at hr ⊢
  generalize E % 400 = r at hr ⊢
  have hdb : -59 ≤ doy ∧ doy ≤ 640 := by omega
  clear hdoy hcm he
  simp only [inI64, i64min, i64max]
  refine ⟨?_, ?_, by omega, by omega, by omega, by omega, by omega, by omega, by omega, by omega,
    by omega⟩
  · split   -- `y - 1` is formed for January and February only
    · omega
    · trivial
  · split   -- `eyear - 399` for a negative year only
    · trivial
    · omega

theorem ddAdjust_ok (c4 delta k : Int) (hk : c4 = 400 * k)
    (hc : -100000000000000000 ≤ c4 ∧ c4 ≤ 100000000000000000)
    (hdl : -292194 < delta ∧ delta < 292194) (hD : inI64 (146097 * k + delta)) :
    (ddAdjust c4 delta).ok ∧ inI64 (cdiv (ddAdjust c4 delta).val.1 400 * 146097) := by
  unfold ddAdjust
  simp only [inI64, i64min, i64max] at hD ⊢
  split
  · simp only [Ck.bind_ok, chk64_ok, chk64_val, Ck.pure_ok, and_true, Ck.bindv, Ck.pure_val, inI64,
      i64min, i64max, cdiv_eq _ 400]
    omega
  · split
    · simp only [Ck.bind_ok, chk64_ok, chk64_val, Ck.pure_ok, and_true, Ck.bindv, Ck.pure_val, inI64,
        i64min, i64max, cdiv_eq _ 400]
      omega
    · simp only [Ck.pure_ok, true_and, Ck.pure_val, cdiv_eq _ 400]
      omega

theorem year_diff_bound {y1 m1 d1 y2 m2 d2 : Int} (v1 : ValidDate y1 m1 d1) (v2 : ValidDate y2 m2 d2)
    (h : y2 ≤ y1) : 365 * (y1 - y2) - 366 ≤ dayNum y1 m1 d1 - dayNum y2 m2 d2 := by
  have r1 := dayOfYear_range _ _ _ v1
  have r2 := dayOfYear_range _ _ _ v2
  have c2 := daysInYear_cases y2
  have hm := leapsThrough_mono (y2 - 1) (y1 - 1) (by omega)
  simp only [dayNum, daysBeforeYear]
  omega

/-- dates in the years `-399 … 399` are less than 800 years = `2 * 146097` days apart -/
theorem dayNum_small (y m d : Int) (hy : -400 < y ∧ y < 400) (h1 : 1 ≤ m) (h2 : m ≤ 12)
    (hd : 1 ≤ d ∧ d ≤ 31) : -865260 ≤ dayNum y m d ∧ dayNum y m d ≤ -573431 := by
  have hb := daysBeforeMonth_bound y m h1 h2
  simp only [dayNum, daysBeforeYear, leapsThrough]
  omega


theorem dayDifference_ok (y1 m1 d1 y2 m2 d2 : Int) (v1 : ValidDate y1 m1 d1)
    (v2 : ValidDate y2 m2 d2) (hy1 : inI64 y1) (hy2 : inI64 y2)
    (hD : inI64 (dayNum y1 m1 d1 - dayNum y2 m2 d2)) :
    (Civil.dayDifference y1 m1 d1 y2 m2 d2).ok := by
  obtain ⟨a1, a2, a3, a4⟩ := v1
  obtain ⟨b1, b2, b3, b4⟩ := v2
  have p1 := daysInMonth_pos y1 m1
  have p2 := daysInMonth_pos y2 m2
  have e1 := cdiv_cmod y1 400
  have e2 := cdiv_cmod y2 400
  have r1 := cmod_range y1 (k := 400) (by decide)
  have r2 := cmod_range y2 (k := 400) (by decide)
  have g1 := cmod_sign y1 400
  have g2 := cmod_sign y2 400
  have s1 := dayNum_small (cmod y1 400) m1 d1 r1 a1 a2 (by omega)
  have s2 := dayNum_small (cmod y2 400) m2 d2 r2 b1 b2 (by omega)
  have o1 := ymdOrd_ok (cmod y1 400) m1 d1 r1 a1 a2 (by omega)
  have o2 := ymdOrd_ok (cmod y2 400) m2 d2 r2 b1 b2 (by omega)
  have f1 := dayNum_add_400_mul (cmod y1 400) (cdiv y1 400) m1 d1
  have f2 := dayNum_add_400_mul (cmod y2 400) (cdiv y2 400) m2 d2
  rw [show cmod y1 400 + 400 * cdiv y1 400 = y1 by omega] at f1
  rw [show cmod y2 400 + 400 * cdiv y2 400 = y2 by omega] at f2
  have yb : -30000000000000000 ≤ y1 - y2 ∧ y1 - y2 ≤ 30000000000000000 := by
    simp only [inI64, i64min, i64max] at hD
    by_cases h : y2 ≤ y1
    · have := year_diff_bound ⟨a1, a2, a3, a4⟩ ⟨b1, b2, b3, b4⟩ h; omega
    · have := year_diff_bound ⟨b1, b2, b3, b4⟩ ⟨a1, a2, a3, a4⟩ (by omega); omega
  rw [dayDifference_eq]
  simp only [Ck.bind_ok, chk64_ok, chk64_val, ymdOrd_val _ _ _ a1 a2, ymdOrd_val _ _ _ b1 b2]
  have hadj := ddAdjust_ok (y1 - cmod y1 400 - (y2 - cmod y2 400))
    (dayNum (cmod y1 400) m1 d1 - dayNum (cmod y2 400) m2 d2) (cdiv y1 400 - cdiv y2 400)
    (by omega) (by omega) (by omega)
    (by simp only [inI64, i64min, i64max] at hD ⊢; omega)
  have hval := ddAdjust_val (y1 - cmod y1 400 - (y2 - cmod y2 400))
    (dayNum (cmod y1 400) m1 d1 - dayNum (cmod y2 400) m2 d2) (cdiv y1 400 - cdiv y2 400)
    (by omega)
  simp only [inI64, i64min, i64max] at hy1 hy2 hD
  exact ⟨inI64_of_bounds (by omega), inI64_of_bounds (by omega), inI64_of_bounds (by omega), o1, o2,
    inI64_of_bounds (by omega), hadj.1, hadj.2, hval ▸ inI64_of_bounds (by omega)⟩

theorem difference_ok (t : Tag) (a b : Fields) (va : Valid a) (vb : Valid b)
    (ha : Aligned t a) (hb : Aligned t b) (hya : inI64 a.y) (hyb : inI64 b.y)
    (hr : inI64 (unitNum t a - unitNum t b)) : (Civil.difference t a b).ok := by
  have hdv := dayDifference_val a.y a.m a.d b.y b.m b.d va.1 va.2.1 vb.1 vb.2.1
  have hdo := dayDifference_ok a.y a.m a.d b.y b.m b.d (valid_date va) (valid_date vb) hya hyb
  obtain ⟨a1, a2, a3, a4, a5, a6, a7, a8, a9, a10⟩ := va
  obtain ⟨b1, b2, b3, b4, b5, b6, b7, b8, b9, b10⟩ := vb
  -- the count in each unit fits because the count in the next finer one does
  cases t <;> simp only [unitNum, secNum] at hr <;>
    simp only [Civil.difference, Ck.bind_ok, chk64_ok, chk64_val, scaleAdd_val, hdv]
  · have h3 : inI64 ((((dayNum a.y a.m a.d - dayNum b.y b.m b.d) * 24 + (a.hh - b.hh)) * 60 +
        (a.mm - b.mm)) * 60 + (a.ss - b.ss)) :=
      inI64_congr hr (by omega)
    have h2 := inI64_of_scale (by decide) (by omega) h3
    have h1 := inI64_of_scale (by decide) (by omega) h2
    exact ⟨hdo (inI64_of_scale (by decide) (by omega) h1),
      scaleAdd_ok _ 24 _ (by decide) (by decide) (by omega) h1,
      scaleAdd_ok _ 60 _ (by decide) (by decide) (by omega) h2,
      scaleAdd_ok _ 60 _ (by decide) (by decide) (by omega) h3⟩
  · have h2 : inI64 (((dayNum a.y a.m a.d - dayNum b.y b.m b.d) * 24 + (a.hh - b.hh)) * 60 +
        (a.mm - b.mm)) :=
      inI64_congr hr (by omega)
    have h1 := inI64_of_scale (by decide) (by omega) h2
    exact ⟨hdo (inI64_of_scale (by decide) (by omega) h1),
      scaleAdd_ok _ 24 _ (by decide) (by decide) (by omega) h1,
      scaleAdd_ok _ 60 _ (by decide) (by decide) (by omega) h2⟩
  · have h1 : inI64 ((dayNum a.y a.m a.d - dayNum b.y b.m b.d) * 24 + (a.hh - b.hh)) :=
      inI64_congr hr (by omega)
    exact ⟨hdo (inI64_of_scale (by decide) (by omega) h1),
      scaleAdd_ok _ 24 _ (by decide) (by decide) (by omega) h1⟩
  · exact hdo hr
  · have h1 : inI64 ((a.y - b.y) * 12 + (a.m - b.m)) :=
      inI64_congr hr (by omega)
    exact ⟨inI64_of_scale (by decide) (by omega) h1,
      scaleAdd_ok _ 12 _ (by decide) (by decide) (by omega) h1⟩
  · exact hr

end Cctz
