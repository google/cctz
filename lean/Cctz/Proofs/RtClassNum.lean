/-
  C07Class helper proofs: decimal numerals — the first two digits of a numeral ≥ 10, and the value
  the format lexer reads.
-/
import Cctz.Proofs.PaSub
import Cctz.Spec.FormatLex

namespace Cctz.Rtc
open Cctz Cctz.Bytes Cctz.Format Cctz.Parse Cctz.Spec Cctz.Spec.Lex Cctz.Pa

theorem decNat_two (n : Nat) (hn : 10 ≤ n) :
    ∃ c1 c2 tl, decNat n = c1 :: c2 :: tl ∧ isDigit c1 = true ∧ isDigit c2 = true := by
  have hd := decNat_digits n
  have hl : ¬ ((decNat n).length ≤ 1) := by
    rw [decNat_length_le n 1 (by decide)]; omega
  match h : decNat n, hd, hl with
  | [], _, hl => simp at hl
  | [_], _, hl => simp at hl
  | c1 :: c2 :: tl, hd, _ => exact ⟨c1, c2, tl, rfl, hd c1 (by simp), hd c2 (by simp)⟩

theorem digitsVal_decNat (n : Nat) : digitsVal (decNat n) = n := by
  have key : ∀ (l : Bytes) (a : Nat), (∀ c ∈ l, isDigit c = true) →
      ((l.foldl (fun v c => v * 10 + (c.toNat - 48)) a : Nat) : Int) = nv (a : Int) l := by
    intro l
    induction l with
    | nil => intro a _; rfl
    | cons c l ih =>
      intro a hl
      have hc := (isDigit_iff c).1 (hl c (by simp))
      rw [List.foldl_cons, ih _ (fun x hx => hl x (by simp [hx])), nv_cons]
      congr 1
      unfold dstep
      omega
  exact Int.ofNat_inj.1 ((key _ 0 (decNat_digits n)).trans (nv_decNat n))

end Cctz.Rtc
