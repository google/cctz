/-
  C10: `BreakTime` raises no overflow flag on a tame table (the 400-year shift needs the last
  entry strictly beyond `INT64_MAX mod kSecsPer400Years`, see `QoTame.lean`).
-/
import Cctz.Proofs.QoBasic
import Cctz.Proofs.TableLookup

namespace Cctz.Qo
open Cctz Cctz.Tz Cctz.Spec

theorem novf_bind_of {x : Ck α} {f : α → Ck β} (hx : NoOvf x) (hf : NoOvf (f x.val)) :
    NoOvf (x >>= f) := (novf_bind x f).2 ⟨hx, hf⟩

theorem localTimeTT_novf (abbrs : Bytes) (t : Int) (tt : TransitionType) (ht : inI64 t)
    (ho : -90000 < tt.utcOffset ∧ tt.utcOffset < 90000) : NoOvf (localTimeTT abbrs t tt) := by
  simp only [inI64, i64min, i64max] at ht
  unfold localTimeTT
  have se := Tl.secNum_epoch
  obtain ⟨v1, _, u1⟩ := civilAdd_spec .second epoch t Tl.valid_epoch trivial
  simp only [unitNum] at u1
  refine novf_bind_of (civilAdd_novf epoch t Tl.valid_epoch (by omega) (by omega)
    (inI64_of_bounds (by omega)) (by omega) (by omega)) ?_
  refine novf_bind_of (civilAdd_novf _ _ v1 (by omega) (by omega)
    (inI64_of_bounds (by omega)) (by omega) (by omega)) (novf_pure _)

theorem localTimeTr_novf {z : Zone} (tm : Tame z) (t : Int) {i : Nat} (hi : i < z.transitions.size)
    (ht : inI64 t) (hd : inI64 (t - timeOf z i)) : NoOvf (localTimeTr z t (trn z i)) := by
  have e := entry tm hi
  have ⟨_, _, sc, _, _, _, _, _, _, _, _, _⟩ := e
  simp only [inI64, i64min, i64max] at ht
  unfold localTimeTr
  refine novf_bind_of (novf_getType _ _) ?_
  refine novf_bind_of ((novf_chk64 _).2 hd) ?_
  rw [chk64_val]
  refine novf_bind_of (civilAdd_novf _ _ e.vc (by omega) (by omega) hd
    (by simp only [unixTime_eq]; omega) (by simp only [unixTime_eq]; omega)) (novf_pure _)

/-- the difference `t - T` formed by `LocalTime(t, tr)` is representable when `tr` is at or before
`t` and either `t` is small or `T` is not negative -/
theorem diff_inI64 {t T : Int} (ht : inI64 t) (h1 : T ≤ t) (hT : -1152921504606846976 ≤ T)
    (h2 : t ≤ 1152921504606846976 ∨ 0 ≤ T) : inI64 (t - T) := by
  simp only [inI64, i64min, i64max] at *; omega

theorem tableAns_novf {z : Zone} (tm : Tame z) (t : Int) (ht : inI64 t) : NoOvf (Tl.tableAns z t) := by
  have hs := Tc.inSeg_segIndex tm.wf t
  unfold Tl.tableAns
  split
  · refine novf_bind_of (novf_getType _ _) ?_
    rw [Tl.getType_val]
    exact localTimeTT_novf _ _ _ ht (dflt_bd tm)
  · have hi : segIndex z t - 1 < z.transitions.size := by have := hs.1; omega
    refine localTimeTr_novf tm t hi ht (diff_inI64 ht (hs.2.1 (by omega)) (tm.times _ hi).1 ?_)
    by_cases hn : segIndex z t = z.transitions.size
    · rw [hn]; exact Or.inr tm.halves.2
    · have := hs.2.2 (by omega)
      have := (tm.times _ (show segIndex z t < z.transitions.size by omega)).2
      exact Or.inl (by omega)

theorem breakTimeCore_novf {z : Zone} (tm : Tame z) (hint : Nat) (t : Int) (ht : inI64 t) :
    NoOvf (breakTimeCore z hint t) := by
  unfold NoOvf
  rw [(Tl.breakTimeCore_char tm.wf hint t).2]
  exact tableAns_novf tm t ht

/-! ### the 400-year shift -/

theorem yearShift_novf (cs : Fields) (v : Valid cs) (k : Int)
    (hr : inI64 (cs.y + k * 400)) : NoOvf (yearShift cs (k * 400)) := by
  unfold yearShift
  refine novf_bind_of ((novf_chk64 _).2 hr) ?_
  rw [chk64_val]
  have hres : (Civil.nSec (cs.y + k * 400) cs.m cs.d cs.hh cs.mm cs.ss).val.y = cs.y + k * 400 :=
    Ld.yearShift_val cs v k
  obtain ⟨h1, h2, h3, h4, h5, h6, h7, h8, h9, h10⟩ := v
  have hp := daysInMonth_pos cs.y cs.m
  have hm := month_hyps (cs.y + k * 400) cs.m h1 h2 hr
  apply novf_of_ok
  unfold Civil.civilNew
  rw [Ck.map_ok]
  exact nSec_ok _ _ _ _ _ _ (inI64_of_bounds (by omega))
    (inI64_of_bounds (by omega)) (inI64_of_bounds (by omega))
    (inI64_of_bounds (by omega)) hm.1 hm.2 (by rw [hres]; exact hr)

/-- `BreakTime` raises no overflow flag when `t` is less than 730692561 whole 400-year cycles beyond
the last entry of an extended table -/
theorem breakTime_novf {z : Zone} (tm : Tame z) (hint : Nat) (t : Int) (ht : inI64 t)
    (hx : z.extended = true → t - timeOf z (z.transitions.size - 1) < 9223372029693628800) :
    NoOvf (breakTime z hint t) := by
  have hne := tm.wf.nonempty
  have hl : z.transitions.size - 1 < z.transitions.size := by omega
  have hlast := tm.times _ hl
  unfold breakTime
  extract_lets timecnt
  refine novf_bind_of (novf_getTrans _ _) ?_
  refine novf_bind_of (novf_getTrans _ _) ?_
  rw [Tl.getTrans_val, Tl.getTrans_val]
  split
  · rename_i hc
    obtain ⟨_, h1, hext⟩ := hc
    replace h1 : t ≥ timeOf z (z.transitions.size - 1) := h1
    have hL := hx hext
    have hk : Gen.kSecsPer400Years = 12622780800 := rfl
    simp only [hk, unixTime_eq]
    show NoOvf (chk64 (t - timeOf z (z.transitions.size - 1)) >>= _)
    generalize timeOf z (z.transitions.size - 1) = L at *
    simp only [inI64, i64min, i64max] at ht
    have hd0 : 0 ≤ t - L := by omega
    refine novf_bind_of ((novf_chk64 _).2 (inI64_of_bounds (by omega))) ?_
    rw [chk64_val, cdiv_of_nonneg _ hd0]
    generalize hq : (t - L) / 12622780800 = q
    have hq0 : 0 ≤ q := by omega
    have hq1 : q ≤ 730692560 := by omega
    refine novf_bind_of ((novf_chk64 _).2 (inI64_of_bounds (by omega))) ?_
    rw [chk64_val]
    refine novf_bind_of ((novf_chk64 _).2 (inI64_of_bounds (by omega))) ?_
    rw [chk64_val]
    have ht' : inI64 (t - (q + 1) * 12622780800) := by simp only [inI64, i64min, i64max]; omega
    refine novf_bind_of ((novf_chk64 _).2 ht') ?_
    rw [chk64_val]
    refine novf_bind_of (breakTimeCore_novf tm hint _ ht') ?_
    have hspec := Tl.breakTimeCore_spec z tm.wf tm.cols hint (t - (q + 1) * 12622780800)
    have hob : -90000 < offAt z (t - (q + 1) * 12622780800) ∧ offAt z (t - (q + 1) * 12622780800) < 90000 :=
      tm.offs _ (Tl.prevType_lt z tm.wf _)
    generalize (breakTimeCore z hint (t - (q + 1) * 12622780800)).val = p at hspec ⊢
    obtain ⟨al, h'⟩ := p
    obtain ⟨val, sal, _⟩ := hspec
    dsimp only at val sal ⊢
    simp only [inI64, i64min, i64max] at ht'
    have hyb := year_bounds val (by omega) (by omega)
    refine novf_bind_of ((novf_chk64 _).2 (inI64_of_bounds (by omega))) ?_
    rw [chk64_val]
    exact novf_bind_of (yearShift_novf al.cs val (q + 1)
      (inI64_of_bounds (by omega))) (novf_pure _)
  · exact breakTimeCore_novf tm hint t ht

end Cctz.Qo
