/-
  `ParseSubSeconds` and `ParseOffset`: what they accept.
-/
import Cctz.Proofs.PaInt

namespace Cctz.Pa
open Cctz Cctz.Bytes Cctz.Format Cctz.Parse Cctz.Spec

/-! ### list helpers -/

theorem mem_takeWhile {p : UInt8 → Bool} (l : Bytes) : ∀ c ∈ l.takeWhile p, p c = true := by
  induction l with
  | nil => simp
  | cons a l ih =>
    intro c hc
    rw [List.takeWhile_cons] at hc
    split at hc
    · simp only [List.mem_cons] at hc
      rcases hc with hc | hc
      · subst hc; assumption
      · exact ih c hc
    · simp at hc

theorem headD_dropWhile {p : UInt8 → Bool} (h0 : p 0 = false) (l : Bytes) :
    p ((l.dropWhile p).headD 0) = false := by
  induction l with
  | nil => simpa using h0
  | cons a l ih =>
    rw [List.dropWhile_cons]; split
    · exact ih
    · simpa using ‹¬ p a = true›

theorem length_dropWhile_le {p : UInt8 → Bool} (l : Bytes) : (l.dropWhile p).length ≤ l.length := by
  induction l with
  | nil => simp
  | cons a l ih => rw [List.dropWhile_cons]; split <;> simp <;> omega

theorem length_takeWhile_le {p : UInt8 → Bool} (l : Bytes) : (l.takeWhile p).length ≤ l.length := by
  induction l with
  | nil => simp
  | cons a l ih => rw [List.takeWhile_cons]; split <;> simp <;> omega

theorem takeWhile_append_of_all {p : UInt8 → Bool} (ds rest : Bytes) (h : ∀ c ∈ ds, p c = true)
    (hr : p (rest.headD 0) = false) :
    (ds ++ rest).takeWhile p = ds ∧ (ds ++ rest).dropWhile p = rest := by
  induction ds with
  | nil =>
    cases rest with
    | nil => simp
    | cons a r =>
      have : p a = false := by simpa using hr
      simp [this]
  | cons c ds ih =>
    have hc := h c (by simp)
    have := ih (fun x hx => h x (by simp [hx]))
    simp [hc, this]

theorem isDigit_zero : isDigit 0 = false := by decide

theorem kExp10_getD : ∀ j, j ≤ 15 → Gen.kExp10.getD j 1 = 10 ^ j := by decide

theorem pow15 : (10 : Int) ^ 15 = 1000000000000000 := by decide

/-- k digits scaled to 15 places stay below 10^15 -/
theorem nv_scaled_lt (ds : Bytes) (h : ∀ c ∈ ds, isDigit c = true) (hk : ds.length ≤ 15) :
    nv 0 ds * 10 ^ (15 - ds.length) < 1000000000000000 := by
  have h1 := nv_lt_pow ds h
  have h2 : (0 : Int) < 10 ^ (15 - ds.length) := Int.pow_pos (by decide)
  have h3 := Int.mul_lt_mul_of_pos_right h1 h2
  rw [← Int.pow_add, show ds.length + (15 - ds.length) = 15 by omega, pow15] at h3
  exact h3

theorem parseSubSeconds_sound (dp rest : Bytes) (v : Int) (h : parseSubSeconds dp = some (rest, v)) :
    0 ≤ v ∧ v < 1000000000000000 ∧
    ∃ ds, dp = ds ++ rest ∧ ds ≠ [] ∧ (∀ c ∈ ds, isDigit c = true) ∧ (rest.headD 0 |> isDigit) = false ∧
      v = numVal (ds.take 15) * 10 ^ (15 - (ds.take 15).length) := by
  unfold parseSubSeconds at h
  simp only at h
  split at h
  · simp at h
  · rename_i hne
    simp only [Option.some.injEq, Prod.mk.injEq] at h
    obtain ⟨h1, h2⟩ := h
    have hdig : ∀ c ∈ (dp.takeWhile isDigit).take 15, isDigit c = true :=
      fun c hc => mem_takeWhile dp c (List.mem_of_mem_take hc)
    have hlen : ((dp.takeWhile isDigit).take 15).length ≤ 15 := by
      rw [List.length_take]; omega
    rw [kExp10_getD _ (by omega)] at h2
    change nv 0 _ * _ = v at h2
    have hv : v = numVal ((dp.takeWhile isDigit).take 15) *
        10 ^ (15 - ((dp.takeWhile isDigit).take 15).length) := by rw [← h2]; rfl
    refine ⟨?_, ?_, dp.takeWhile isDigit, ?_, ?_, mem_takeWhile dp, ?_, hv⟩
    · rw [← h2]
      exact Int.mul_nonneg (nv_nonneg _ 0 (by omega) hdig) (Int.pow_nonneg (by decide))
    · rw [← h2]; exact nv_scaled_lt _ hdig hlen
    · rw [← h1]; exact List.takeWhile_append_dropWhile.symm
    · intro h0; rw [h0] at hne; simp at hne
    · rw [← h1]; exact headD_dropWhile isDigit_zero dp

/-! ### `ParseOffset` -/

theorem parseOffset_range (dp rest : Bytes) (sep : UInt8) (off : Int)
    (h : parseOffset dp sep = some (rest, off)) : -86400 < off ∧ off < 86400 := by
  unfold parseOffset at h
  simp only [Gen.parseOff_hours, Gen.parseOff_minutes, Gen.parseOff_seconds] at h
  by_cases hs : peek dp = 43 ∨ peek dp = 45
  · rw [if_pos hs] at h
    generalize hh : parseInt32 (List.drop 1 dp) 2 0 23 = r at h
    cases r with
    | none => cases h
    | some p =>
      obtain ⟨ap, hours⟩ := p
      have rh := parseInt_range _ _ _ _ _ _ _ hh
      dsimp only at h
      by_cases hl : (dp.drop 1).length - ap.length ≠ 2
      · rw [if_pos hl] at h; cases h
      · rw [if_neg hl] at h
        simp only [Option.some.injEq, Prod.mk.injEq] at h
        obtain ⟨_, h⟩ := h
        -- minutes and seconds are in range whichever way the nested parses go
        have key : ∀ (x : Bytes × Int × Int), (0 ≤ x.2.1 ∧ x.2.1 ≤ 59 ∧ 0 ≤ x.2.2 ∧ x.2.2 ≤ 59) →
            (if peek dp = 45 then -((hours * 60 + x.2.1) * 60 + x.2.2) else (hours * 60 + x.2.1) * 60 + x.2.2) = off →
            -86400 < off ∧ off < 86400 := by
          intro x hx he; split at he <;> omega
        refine key _ ?_ h
        generalize (if sep ≠ 0 ∧ peek ap = sep then List.drop 1 ap else ap) = ap1
        cases hm : parseInt32 ap1 2 0 59 with
        | none => simp
        | some p =>
          obtain ⟨bp, minutes⟩ := p
          have rm := parseInt_range _ _ _ _ _ _ _ hm
          simp only []
          by_cases hl : ap1.length - bp.length = 2
          · simp only [hl, if_true]
            generalize (if sep ≠ 0 ∧ peek bp = sep then List.drop 1 bp else bp) = bp1
            cases hs : parseInt32 bp1 2 0 59 with
            | none => simp only []; omega
            | some q =>
              obtain ⟨cp, seconds⟩ := q
              have rs := parseInt_range _ _ _ _ _ _ _ hs
              simp only []
              split <;> (simp only []; omega)
          · simp only [hl, if_false]; omega
  · rw [if_neg hs] at h
    by_cases hz : peek dp = 90 ∨ peek dp = 122
    · rw [if_pos hz] at h; cases h; omega
    · rw [if_neg hz] at h; cases h
end Cctz.Pa
