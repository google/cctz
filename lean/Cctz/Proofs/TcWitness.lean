/-
  Concrete tables: one ordinary table (a gap and an overlap) on which the hypotheses of the C02 /
  C03 / C06 theorems hold, and three untame tables showing that `TimesInRange`, `FirstEntryRoom` and
  "not before the last entry" cannot be dropped.
-/
import Cctz.Model.Tz
import Cctz.Spec.TableSem
import Cctz.Spec.TableTame
import Cctz.Proofs.LtCheck

namespace Cctz.Tc
open Cctz Cctz.Tz Cctz.Spec

/-! ### an ordinary table: +0 until 1000000, then +3600 (gap), back to +0 at 2000000 (overlap) -/

def cMax0 : Fields := ⟨292277026596, 12, 4, 15, 30, 7⟩
def cMin0 : Fields := ⟨-292277022657, 1, 27, 8, 29, 52⟩
def cMax1 : Fields := ⟨292277026596, 12, 4, 16, 30, 7⟩
def cMin1 : Fields := ⟨-292277022657, 1, 27, 9, 29, 52⟩

def zEx : Zone :=
  { transitions := #[
      { unixTime := 1000000, typeIndex := 1, civilSec := ⟨1970, 1, 12, 14, 46, 40⟩,
        prevCivilSec := ⟨1970, 1, 12, 13, 46, 39⟩ },
      { unixTime := 2000000, typeIndex := 0, civilSec := ⟨1970, 1, 24, 3, 33, 20⟩,
        prevCivilSec := ⟨1970, 1, 24, 4, 33, 19⟩ }],
    types := #[
      { utcOffset := 0, civilMax := cMax0, civilMin := cMin0, isDst := false, abbrIndex := 0 },
      { utcOffset := 3600, civilMax := cMax1, civilMin := cMin1, isDst := true, abbrIndex := 4 }],
    defaultType := 0 }

theorem zEx_wf : TableWF zEx := Lt.tableWFb_sound _ (by decide +kernel)
theorem zEx_cols : CivilCols zEx := Lt.civilColsb_sound _ (by decide +kernel)
theorem zEx_sep : Separated zEx := Lt.separatedb_sound _ (by decide +kernel)
theorem zEx_far : FarApart zEx := by
  intro i hi
  have hi' : i + 1 < 2 := hi
  have : i = 0 := by omega
  subst this
  decide +kernel
theorem zEx_tir : TimesInRange zEx := Lt.timesInRangeb_sound _ (by decide +kernel)
theorem zEx_fer : FirstEntryRoom zEx := by unfold FirstEntryRoom; decide +kernel
theorem zEx_sorted : CivilSorted zEx := Lt.civilSortedb_sound _ (by decide +kernel)

/-! ### a table whose only entry lies beyond int64 max -/

def zBig : Zone :=
  { transitions := #[
      { unixTime := 9223372036854775818, typeIndex := 0,
        civilSec := ⟨292277026596, 12, 4, 15, 30, 18⟩, prevCivilSec := ⟨292277026596, 12, 4, 15, 30, 17⟩ }],
    types := #[{ utcOffset := 0, civilMax := cMax0, civilMin := cMin0, isDst := false, abbrIndex := 0 }],
    defaultType := 0 }

theorem zBig_wf : TableWF zBig := Lt.tableWFb_sound _ (by decide +kernel)
theorem zBig_cols : CivilCols zBig := Lt.civilColsb_sound _ (by decide +kernel)
theorem zBig_sep : Separated zBig := Lt.separatedb_sound _ (by decide +kernel)

/-! ### a table whose first entry sets the clock back an hour 100 s after int64 min -/

def zLow : Zone :=
  { transitions := #[
      { unixTime := -9223372036854775708, typeIndex := 1,
        civilSec := ⟨-292277022657, 1, 27, 8, 31, 32⟩, prevCivilSec := ⟨-292277022657, 1, 27, 9, 31, 31⟩ }],
    types := #[
      { utcOffset := 3600, civilMax := cMax1, civilMin := cMin1, isDst := false, abbrIndex := 0 },
      { utcOffset := 0, civilMax := cMax0, civilMin := cMin0, isDst := false, abbrIndex := 4 }],
    defaultType := 0 }

theorem zLow_wf : TableWF zLow := Lt.tableWFb_sound _ (by decide +kernel)
theorem zLow_cols : CivilCols zLow := Lt.civilColsb_sound _ (by decide +kernel)
theorem zLow_sep : Separated zLow := Lt.separatedb_sound _ (by decide +kernel)
theorem zLow_tir : TimesInRange zLow := Lt.timesInRangeb_sound _ (by decide +kernel)
theorem zLow_not_fer : ¬ FirstEntryRoom zLow := by unfold FirstEntryRoom; decide +kernel

/-! ### an "extended" table whose last entry's civil second lies after the years it claims to cover -/

def zLate : Zone :=
  { transitions := #[
      { unixTime := 0, typeIndex := 0, civilSec := ⟨5000, 1, 1, 0, 0, 0⟩, prevCivilSec := ⟨2800, 1, 1, 0, 0, 0⟩ }],
    types := #[{ utcOffset := 0, civilMax := cMax0, civilMin := cMin0, isDst := false, abbrIndex := 0 }],
    defaultType := 0, extended := true, lastYear := some 0 }

theorem zLate_wf : TableWF zLate := Lt.tableWFb_sound _ (by decide +kernel)
theorem zLate_sorted : CivilSorted zLate := Lt.civilSortedb_sound _ (by decide +kernel)

/-! ### a loadable file with such a first entry

A 129-byte TZif (version 2): one transition at -2^63 + 100 to type 1 (+0, "BBB"), type 0
(+3600, "AAA") unused by any transition and therefore the before-first type, empty footer.
`load` accepts it without raising a flag (no sentinel is prepended because the first transition is
negative); `MakeTime` on the first civil second of the overlap then overflows in `MakeRepeated`,
and in exact integers `convert` is not monotone across that second. -/

def lowFile : Bytes :=
   [84, 90, 105, 102, 50, 0, 0, 0, 0, 0, 0, 0, 0, 0, 0, 0, 0, 0, 0, 0, 0, 0, 0, 0, 0, 0, 0, 0, 0, 0,
    0, 0, 0, 0, 0, 0, 0, 0, 0, 1, 0, 0, 0, 4, 0, 0, 0, 0, 0, 0, 85, 84, 67, 0, 84, 90, 105, 102, 50,
    0, 0, 0, 0, 0, 0, 0, 0, 0, 0, 0, 0, 0, 0, 0, 0, 0, 0, 0, 0, 0, 0, 0, 0, 0, 0, 0, 0, 0, 0, 1, 0,
    0, 0, 2, 0, 0, 0, 8, 128, 0, 0, 0, 0, 0, 0, 100, 1, 0, 0, 14, 16, 0, 0, 0, 0, 0, 0, 0, 4, 65,
    65, 65, 0, 66, 66, 66, 0, 10, 10]

def lowFileCheck : Bool :=
  match (load {} lowFile).val with
  | .ok z =>
    decide ((load {} lowFile).ok) && z.transitions.size == 2 &&
    decide (timeOf z 0 = -9223372036854775708) && decide (offBefore z 0 = 3600) && decide (offOf z 0 = 0) &&
    (makeTime z 0 ⟨-292277022657, 1, 27, 8, 31, 32⟩).flags.ovf &&
    decide ((convert z 0 ⟨-292277022657, 1, 27, 8, 31, 31⟩).val.1 >
            (convert z 0 ⟨-292277022657, 1, 27, 8, 31, 32⟩).val.1)
  | _ => false

theorem lowFile_witness : lowFileCheck = true := by decide +kernel

end Cctz.Tc
