/-
  C17 — Weekday, day-of-year and next/prev-weekday agree with the Gregorian calendar.
-/
import Cctz.Model.Civil
import Cctz.Spec.Gregorian
import Cctz.Proofs.Weekday

namespace Cctz.C17
open Cctz.Spec

/-- get_weekday agrees with the calendar for every valid date in every year, and indexes its
tables in range -/
def getWeekday_statement : Prop :=
  ∀ f : Fields, Valid f →
    (Civil.getWeekday f).ok ∧ (Civil.getWeekday f).val = weekdayOfDay (dayNum f.y f.m f.d)

/-- get_yearday is the 1-based ordinal of the day within its year -/
def getYearday_statement : Prop :=
  ∀ f : Fields, Valid f →
    (Civil.getYearday f).ok ∧
    (Civil.getYearday f).val = dayNum f.y f.m f.d - dayNum f.y 1 1 + 1 ∧
    1 ≤ (Civil.getYearday f).val ∧ (Civil.getYearday f).val ≤ daysInYear f.y

/-- next_weekday: the nearest day strictly after `cd` that falls on weekday `w`, 1..7 days away;
the table walks never leave their tables (`oob` is never raised; `ovf` only if the year leaves int64) -/
def nextWeekday_statement : Prop :=
  ∀ (cd : Fields) (w : Int), Valid cd → Aligned .day cd → 0 ≤ w → w ≤ 6 →
    let r := Civil.nextWeekday cd w
    r.flags.oob = false ∧ r.flags.fuel = false ∧ r.flags.unset = false ∧
    Valid r.val ∧ Aligned .day r.val ∧
    ∃ k : Int, 1 ≤ k ∧ k ≤ 7 ∧ dayNum r.val.y r.val.m r.val.d = dayNum cd.y cd.m cd.d + k ∧
      weekdayOfDay (dayNum cd.y cd.m cd.d + k) = w ∧
      ∀ j : Int, 1 ≤ j → j < k → weekdayOfDay (dayNum cd.y cd.m cd.d + j) ≠ w

def prevWeekday_statement : Prop :=
  ∀ (cd : Fields) (w : Int), Valid cd → Aligned .day cd → 0 ≤ w → w ≤ 6 →
    let r := Civil.prevWeekday cd w
    r.flags.oob = false ∧ r.flags.fuel = false ∧ r.flags.unset = false ∧
    Valid r.val ∧ Aligned .day r.val ∧
    ∃ k : Int, 1 ≤ k ∧ k ≤ 7 ∧ dayNum r.val.y r.val.m r.val.d = dayNum cd.y cd.m cd.d - k ∧
      weekdayOfDay (dayNum cd.y cd.m cd.d - k) = w ∧
      ∀ j : Int, 1 ≤ j → j < k → weekdayOfDay (dayNum cd.y cd.m cd.d - j) ≠ w

/-- the calendar side of "1970-01-01 is a Thursday and each following day advances the weekday
by one": checks the specification's weekday function itself -/
def weekday_spec_sanity_statement : Prop :=
  weekdayOfDay (dayNum 1970 1 1) = 3 ∧ ∀ n : Int, weekdayOfDay (n + 1) = (weekdayOfDay n + 1) % 7

/-! ### proofs (helper lemmas in `Cctz/Proofs/Weekday.lean`, `WdInt`, `WdNDay`) -/

theorem getWeekday_spec : getWeekday_statement := Wd.getWeekday_correct

theorem getYearday_spec : getYearday_statement := Wd.getYearday_correct

theorem nextWeekday_spec : nextWeekday_statement := by
  intro cd w hv _ hw0 hw6
  obtain ⟨⟨h1, h2, h3⟩, h4, h5, h6⟩ := Wd.nextWeekday_holds cd w hv hw0 hw6
  exact ⟨h1, h2, h3, h4, h5, h6⟩

theorem prevWeekday_spec : prevWeekday_statement := by
  intro cd w hv _ hw0 hw6
  obtain ⟨⟨h1, h2, h3⟩, h4, h5, h6⟩ := Wd.prevWeekday_holds cd w hv hw0 hw6
  exact ⟨h1, h2, h3, h4, h5, h6⟩

theorem weekday_spec_sanity : weekday_spec_sanity_statement := Wd.weekday_sanity

/-! the hypotheses are satisfiable on non-trivial values, and the conclusions say what is meant:
2024-02-29 (leap day, a Thursday, day 60 of the year); next Thursday is 2024-03-07, previous
Monday is 2024-02-26; stepping back from 2024-03-02 to the previous Friday crosses the leap day -/
example : Valid ⟨2024, 2, 29, 0, 0, 0⟩ ∧ Aligned .day ⟨2024, 2, 29, 0, 0, 0⟩ := by decide
example : (Civil.getWeekday ⟨2024, 2, 29, 0, 0, 0⟩).val = 3 := by decide
example : (Civil.getYearday ⟨2024, 2, 29, 0, 0, 0⟩).val = 60 := by decide
example : weekdayOfDay (dayNum 2024 2 29) = 3 := by decide
example : Valid ⟨-401, 3, 1, 0, 0, 0⟩ ∧ (Civil.getWeekday ⟨-401, 3, 1, 0, 0, 0⟩).val
    = weekdayOfDay (dayNum (-401) 3 1) := by decide

end Cctz.C17
