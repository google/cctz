/-
  The built-in fixed-offset table of `ResetToBuiltinUTC` has the facts the table-level theorems
  assume, and every entry (and the default) has the one fixed type.
-/
import Cctz.Proofs.TableLookup
import Cctz.Proofs.FixedNames

namespace Cctz.Tl
open Cctz Cctz.Tz Cctz.Spec

/-- the fixed type before its civil columns are filled -/
def fixedTT (off : Int) : TransitionType := { utcOffset := off, isDst := false, abbrIndex := 0 }

/-- one entry of the built-in table -/
def fixedTr (abbrs : Bytes) (off : Int) (t : Int) : Transition :=
  { unixTime := t, typeIndex := 0, civilSec := (localTimeTT abbrs t (fixedTT off)).val.cs,
    prevCivilSec := (Civil.civilSub .second (localTimeTT abbrs t (fixedTT off)).val.cs 1).val }

theorem fixedTr_civ (abbrs : Bytes) (off t : Int) :
    Valid (fixedTr abbrs off t).civilSec ∧ secNum (fixedTr abbrs off t).civilSec = t + off := by
  have h := localTimeTT_spec abbrs t (fixedTT off)
  simp only [fixedTr]
  exact ⟨h.1, h.2.1⟩

theorem fixedTr_prev (abbrs : Bytes) (off t : Int) :
    Valid (fixedTr abbrs off t).prevCivilSec ∧
      secNum (fixedTr abbrs off t).prevCivilSec = t + off - 1 := by
  have h := fixedTr_civ abbrs off t
  simp only [fixedTr] at h ⊢
  obtain ⟨v, _, u⟩ := civilSub_spec .second _ 1 h.1 trivial
  simp only [unitNum] at u
  exact ⟨v, by rw [u, h.2]⟩

theorem resetGo_val (abbrs : Bytes) (off : Int) (l : List Int) :
    (resetToBuiltinUTC.go abbrs (fixedTT off) l).val = l.map (fixedTr abbrs off) := by
  induction l with
  | nil => rfl
  | cons t rest ih =>
    unfold resetToBuiltinUTC.go
    simp only [Ck.bindv, Ck.pure_val, ih, List.map_cons]
    rfl

def fixedAbbrs (off : Int) : Bytes := (Fixed.toAbbr off).val ++ [0]

def fixedZone (off : Int) : Zone :=
  { transitions := (Gen.builtinUtcTransitions.map (fixedTr (fixedAbbrs off) off)).toArray,
    types := #[{ fixedTT off with
      civilMax := (localTimeTT (fixedAbbrs off) i64max (fixedTT off)).val.cs,
      civilMin := (localTimeTT (fixedAbbrs off) i64min (fixedTT off)).val.cs }],
    defaultType := 0, abbreviations := fixedAbbrs off, futureSpec := [], extended := false }

theorem reset_val (off : Int) : (resetToBuiltinUTC off).val = fixedZone off := by
  unfold fixedZone; rw [← resetGo_val]; rfl

theorem fixed_size (off : Int) : (fixedZone off).transitions.size = 12 := by
  simp [fixedZone, Gen.builtinUtcTransitions]

theorem fixed_trn (off : Int) (i : Nat) (hi : i < 12) :
    trn (fixedZone off) i = fixedTr (fixedAbbrs off) off (Gen.builtinUtcTransitions.getD i 0) := by
  have hl : i < Gen.builtinUtcTransitions.length := hi
  simp only [trn, fixedZone, Array.getD_eq_getD_getElem?, List.getElem?_toArray, List.getElem?_map,
    List.getD_eq_getElem?_getD, List.getElem?_eq_getElem hl, Option.map_some, Option.getD_some]

theorem fixed_typ0 (off : Int) : typ (fixedZone off) 0 =
    { fixedTT off with
      civilMax := (localTimeTT (fixedAbbrs off) i64max (fixedTT off)).val.cs,
      civilMin := (localTimeTT (fixedAbbrs off) i64min (fixedTT off)).val.cs } := rfl

theorem fixed_off0 (off : Int) : (typ (fixedZone off) 0).utcOffset = off := rfl

theorem builtin_sorted' : ∀ j : Nat, j < 12 → ∀ i : Nat, i < j →
    Gen.builtinUtcTransitions.getD i 0 < Gen.builtinUtcTransitions.getD j 0 := by
  decide

theorem builtin_sorted (i j : Nat) (hij : i < j) (hj : j < 12) :
    Gen.builtinUtcTransitions.getD i 0 < Gen.builtinUtcTransitions.getD j 0 :=
  builtin_sorted' j hj i hij

theorem fixed_wf (off : Int) : TableWF (fixedZone off) := by
  refine ⟨by rw [fixed_size]; omega, ?_, ?_, by show 0 < 1; omega⟩
  · intro i j hij hj
    rw [fixed_size] at hj
    rw [fixed_trn off i (by omega), fixed_trn off j hj]
    exact builtin_sorted i j hij hj
  · intro i hi
    rw [fixed_size] at hi
    rw [fixed_trn off i hi]
    show 0 < 1; omega

theorem fixed_prevType (off : Int) (i : Nat) (hi : i < 12) : prevType (fixedZone off) i = 0 := by
  unfold prevType
  split
  · rfl
  · rw [fixed_trn off (i - 1) (by omega)]; rfl

theorem fixed_timeOf (off : Int) (i : Nat) (hi : i < 12) :
    timeOf (fixedZone off) i = Gen.builtinUtcTransitions.getD i 0 := by
  unfold timeOf; rw [fixed_trn off i hi]; rfl

theorem fixed_offOf (off : Int) (i : Nat) (hi : i < 12) : offOf (fixedZone off) i = off := by
  unfold offOf; rw [fixed_trn off i hi]; rfl

theorem fixed_offBefore (off : Int) (i : Nat) (hi : i < 12) : offBefore (fixedZone off) i = off := by
  unfold offBefore; rw [fixed_prevType off i hi]; rfl

theorem fixed_cols (off : Int) : CivilCols (fixedZone off) := by
  have one : ∀ k, k < (fixedZone off).types.size → k = 0 := fun k hk => by
    have : (fixedZone off).types.size = 1 := rfl
    omega
  refine ⟨fun i hi => ?_, fun i hi => ?_, fun k hk => ?_, fun k hk => ?_⟩
  · rw [fixed_size] at hi
    rw [fixed_offOf off i hi]; unfold timeOf; rw [fixed_trn off i hi]
    exact fixedTr_civ _ _ _
  · rw [fixed_size] at hi
    rw [fixed_offBefore off i hi]; unfold timeOf; rw [fixed_trn off i hi]
    exact fixedTr_prev _ _ _
  · cases one k hk
    have := localTimeTT_spec (fixedAbbrs off) i64max (fixedTT off)
    simp only [fixed_typ0]
    exact ⟨this.1, this.2.1⟩
  · cases one k hk
    have := localTimeTT_spec (fixedAbbrs off) i64min (fixedTT off)
    simp only [fixed_typ0]
    exact ⟨this.1, this.2.1⟩

theorem fixed_civilSorted (off : Int) : CivilSorted (fixedZone off) := by
  intro i j hij hj
  have cc := fixed_cols off
  have wf := fixed_wf off
  have hj' := hj
  rw [fixed_size] at hj'
  obtain ⟨vi, si⟩ := cc.civ i (by omega)
  obtain ⟨vj, sj⟩ := cc.civ j hj
  have := wf.timeSorted i j hij hj
  rw [lt_iff_secNum vi vj, si, sj, fixed_offOf off i (by omega), fixed_offOf off j hj']
  unfold timeOf; omega

theorem fixed_typeAt (off : Int) (t : Int) : typeAt (fixedZone off) t = 0 := by
  unfold typeAt
  split
  · rfl
  · have hs : segIndex (fixedZone off) t ≤ 12 := by
      unfold segIndex
      have := List.length_filter_le (fun i => decide (timeOf (fixedZone off) i ≤ t))
        (List.range (fixedZone off).transitions.size)
      rw [List.length_range, fixed_size] at this
      exact this
    rw [fixed_trn off _ (by omega)]; rfl

theorem cstr_append_nul (l : Bytes) : Bytes.cstr (l ++ [0]) = Bytes.cstr l := by
  unfold Bytes.cstr
  induction l with
  | nil => simp
  | cons a r ih =>
    by_cases h : a = 0
    · simp [h]
    · rw [List.cons_append, List.takeWhile_cons, List.takeWhile_cons, ih]

theorem fixed_abbr (off : Int) :
    abbrAt (fixedZone off).abbreviations (typ (fixedZone off) 0).abbrIndex =
      Bytes.cstr (Fixed.toAbbr off).val := by
  show Bytes.cstr (List.drop 0 ((Fixed.toAbbr off).val ++ [0])) = _
  rw [List.drop_zero, cstr_append_nul]

end Cctz.Tl
