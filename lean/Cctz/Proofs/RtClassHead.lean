/-
  C07Class helper proofs: how the text of a conversion of the class begins — with a digit, a sign,
  'T', or (for `%e`) a blank — and that it contains no NUL.
-/
import Cctz.Proofs.RtClassText

namespace Cctz.Rtc
open Cctz Cctz.Bytes Cctz.Format Cctz.Parse Cctz.Spec Cctz.Spec.Lex Cctz.Pa Cctz.Wr

theorem digit_head_props (c : UInt8) (h : isDigit c = true) : c ≠ 46 ∧ c ≠ 58 ∧ isSpace c = false :=
  ⟨(by intro h'; subst h'; cases h), (by intro h'; subst h'; cases h), digit_not_space c h⟩

/-- the shape of the text of a conversion: no NUL; it begins with a byte that is not '.' or ':', that
is not white space (except for `%e`), and that is not a digit when the class says it never is -/
def HeadOK (k : CK) (b : Bytes) : Prop :=
  NoNul b ∧ ∃ c r, b = c :: r ∧ c ≠ 46 ∧ c ≠ 58 ∧ (k ≠ .e → isSpace c = false) ∧
    ((Item.conv k).mayStartDigit = false → isDigit c = false)

theorem headOK_digit (k : CK) (b : Bytes) (hn : NoNul b) (c : UInt8) (r : Bytes) (e : b = c :: r)
    (hc : isDigit c = true) (hm : (Item.conv k).mayStartDigit = true) : HeadOK k b := by
  obtain ⟨a1, a2, a3⟩ := digit_head_props c hc
  exact ⟨hn, c, r, e, a1, a2, fun _ => a3, fun h => by rw [hm] at h; cases h⟩

theorem headOK_sign (k : CK) (b : Bytes) (hn : NoNul b) (c : UInt8) (r : Bytes) (e : b = c :: r)
    (hc : c = 43 ∨ c = 45) : HeadOK k b := by
  refine ⟨hn, c, r, e, ?_, ?_, fun _ => ?_, fun _ => ?_⟩ <;> rcases hc with h | h <;> subst h <;> decide

theorem headOK_digits (k : CK) (l b : Bytes) (hl : AllDigits l) (hne : l ≠ []) (hb : NoNul b)
    (hm : (Item.conv k).mayStartDigit = true) : HeadOK k (l ++ b) := by
  obtain ⟨c, r, e, hc⟩ := hl.head hne
  exact headOK_digit k _ (hl.noNul.append hb) c (r ++ b) (by rw [e]; rfl) hc hm

theorem headOK_digits' (k : CK) (l : Bytes) (hl : AllDigits l) (hne : l ≠ [])
    (hm : (Item.conv k).mayStartDigit = true) : HeadOK k l := by
  have := headOK_digits k l [] hl hne noNul_nil hm
  rwa [List.append_nil] at this

theorem headOK_decInt (k : CK) (v : Int) (hm : (Item.conv k).mayStartDigit = true) : HeadOK k (decInt v) := by
  have hn : NoNul (decInt v) := by rw [← Fm.format64_zero]; exact noNul_format64 v
  obtain ⟨c, r, e, _⟩ := decInt_cons v
  rcases decInt_mem v c (by rw [e]; simp) with h | h
  · refine ⟨hn, c, r, e, ?_, ?_, fun _ => ?_, fun h' => by rw [hm] at h'; cases h'⟩ <;>
      subst h <;> decide
  · exact headOK_digit k _ hn c r e h hm

/-! ### offsets: a sign, then digits and ':' -/

theorem sign_ne_zero (p : Prop) [Decidable p] : (if p then 45 else 43 : UInt8) ≠ 0 := by
  split <;> decide

theorem noNul_offHM (sep : Bool) (off : Int) : NoNul (offHM sep off) := by
  unfold offHM
  refine ((((NoNul.cons (sign_ne_zero _) noNul_nil).append (allDigits_decPad _ _).noNul).append ?_).append
    (allDigits_decPad _ _).noNul)
  split
  · exact NoNul.cons (by decide) noNul_nil
  · exact noNul_nil

theorem noNul_offHMS (off : Int) : NoNul (offHMS off) :=
  (((((NoNul.cons (sign_ne_zero _) noNul_nil).append (allDigits_decPad _ _).noNul).append
    (NoNul.cons (by decide) noNul_nil)).append (allDigits_decPad _ _).noNul).append
    (NoNul.cons (by decide) noNul_nil)).append (allDigits_decPad _ _).noNul

theorem offHMS_head (off : Int) : ∃ c r, offHMS off = c :: r ∧ (c = 43 ∨ c = 45) := by
  unfold offHMS
  refine ⟨_, _, rfl, ?_⟩
  split <;> simp

theorem offHM_head (sep : Bool) (off : Int) : ∃ c r, offHM sep off = c :: r ∧ (c = 43 ∨ c = 45) := by
  unfold offHM
  refine ⟨_, _, rfl, ?_⟩
  split <;> simp

theorem offMin_shape (off : Int) : NoNul (offMin off) ∧ ∃ c r, offMin off = c :: r ∧ (c = 43 ∨ c = 45) := by
  unfold offMin
  simp only
  split
  · exact ⟨noNul_offHMS off, offHMS_head off⟩
  · split
    · exact ⟨noNul_offHM true off, offHM_head true off⟩
    · refine ⟨(NoNul.cons (sign_ne_zero _) noNul_nil).append (allDigits_decPad _ _).noNul, _, _, rfl, ?_⟩
      split <;> simp

/-! ### every conversion -/

theorem rk_shape {al : Tz.AbsLookup} {t fs : Int} (E : Env al t fs) (k : CK) (hv : (Item.conv k).valid) :
    HeadOK k (renderConv (toConv k) al t fs) := by
  cases k with
  | Y => exact headOK_decInt _ al.cs.y rfl
  | s => exact headOK_decInt _ t rfl
  | y4 =>
    show HeadOK _ (if al.cs.y < 0 then 45 :: decPad 3 al.cs.y.natAbs else decPad 4 al.cs.y.natAbs)
    split
    · exact headOK_sign _ _ (NoNul.cons (by decide) (allDigits_decPad _ _).noNul) 45 _ rfl (Or.inr rfl)
    · exact headOK_digits' _ _ (allDigits_decPad _ _) (decPad_ne_nil _ _) rfl
  | m | d | H | M | S => exact headOK_digits' _ _ (allDigits_decPad _ _) (decPad_ne_nil _ _) rfl
  | e =>
    show HeadOK _ (if al.cs.d < 10 then 32 :: decNat al.cs.d.toNat else decNat al.cs.d.toNat)
    have hdg : AllDigits (decNat al.cs.d.toNat) := decNat_digits _
    split
    · exact ⟨NoNul.cons (by decide) hdg.noNul, 32, _, rfl, by decide, by decide, fun h => absurd rfl h,
        fun h => by cases h⟩
    · obtain ⟨c, r, e, hc⟩ := hdg.head (decNat_ne_nil _)
      obtain ⟨a1, a2, _⟩ := digit_head_props c hc
      exact ⟨hdg.noNul, c, r, e, a1, a2, fun h => absurd rfl h, fun h => by cases h⟩
  | secStar =>
    exact headOK_digits _ _ _ (allDigits_decPad _ _) (decPad_ne_nil _ _) (noNul_frac fs E.fs0 E.fs1) rfl
  | secN n =>
    show HeadOK _ (decPad 2 al.cs.ss.toNat ++ (if n = 0 then [] else 46 :: Lex.frac n fs))
    rw [if_neg (by have := hv.1; omega)]
    exact headOK_digits _ _ _ (allDigits_decPad _ _) (decPad_ne_nil _ _)
      (NoNul.cons (by decide) (allDigits_frac n fs hv.1).noNul) rfl
  | fracStar => exact headOK_digits' _ (starFText fs) (allDigits_starF fs E.fs0 E.fs1) (starF_ne_nil fs) rfl
  | fracN n =>
    show HeadOK _ (if n = 0 then [] else Lex.frac n fs)
    rw [if_neg (by have := hv.1; omega)]
    exact headOK_digits' _ _ (allDigits_frac n fs hv.1) (frac_ne_nil n fs hv.1) rfl
  | zStar | zColon =>
    obtain ⟨c, r, e, hc⟩ := offHMS_head al.offset
    exact headOK_sign _ _ (noNul_offHMS _) c r e hc
  | zColon3 =>
    obtain ⟨hn, c, r, e, hc⟩ := offMin_shape al.offset
    exact headOK_sign _ _ hn c r e hc
  | zE | zColon1 =>
    obtain ⟨c, r, e, hc⟩ := offHM_head true al.offset
    exact headOK_sign _ _ (noNul_offHM _ _) c r e hc
  | z =>
    obtain ⟨c, r, e, hc⟩ := offHM_head false al.offset
    exact headOK_sign _ _ (noNul_offHM _ _) c r e hc
  | eT => exact ⟨NoNul.cons (by decide) noNul_nil, 84, [], rfl, by decide, by decide, fun _ => by decide,
      fun _ => by decide⟩

end Cctz.Rtc
