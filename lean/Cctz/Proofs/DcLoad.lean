/-
  C01Decode helper proofs: the head of `Load` (headers, data block, footer; staged in
  Cctz/Proofs/LdStages.lean) read against the declarative layout `IsTzif` of Cctz/Spec/TzifSem.lean.
-/
import Cctz.Proofs.DcFinish

namespace Cctz.Dc
open Cctz Cctz.Tz Cctz.Spec Cctz.Lt Cctz.Ld Cctz.C01Decode

/-- the counts of the model's header, as the specification's record -/
def toHdr (h : Header) : Hdr := ⟨h.ttisutcnt, h.ttisstdcnt, h.leapcnt, h.timecnt, h.typecnt, h.charcnt⟩

theorem dataLength_eq (h : Header) (timeLen : Nat) : h.dataLength timeLen = blockLen timeLen (toHdr h) := by
  unfold Header.dataLength blockLen toHdr
  dsimp only
  omega

theorem build_eq_some (h : Bytes) (hdr : Header) : Header.build h = some hdr ↔
    be32 (h.drop 32) = hdr.timecnt ∧ be32 (h.drop 36) = hdr.typecnt ∧ be32 (h.drop 40) = hdr.charcnt ∧
    be32 (h.drop 28) = hdr.leapcnt ∧ be32 (h.drop 24) = hdr.ttisstdcnt ∧
    be32 (h.drop 20) = hdr.ttisutcnt := by
  unfold Header.build
  simp only [← be32_eq, Option.ite_none_left_eq_some, Option.some.injEq]
  generalize be32 (h.drop 32) = a
  generalize be32 (h.drop 36) = b
  generalize be32 (h.drop 40) = c
  generalize be32 (h.drop 28) = d
  generalize be32 (h.drop 24) = e
  generalize be32 (h.drop 20) = f
  obtain ⟨x1, x2, x3, x4, x5, x6⟩ := hdr
  simp only [Header.mk.injEq]
  constructor
  · rintro ⟨h1, h2, h3, h4, h5, h6, rfl, rfl, rfl, rfl, rfl, rfl⟩
    exact ⟨by omega, by omega, by omega, by omega, by omega, by omega⟩
  · rintro ⟨rfl, rfl, rfl, rfl, rfl, rfl⟩
    exact ⟨by omega, by omega, by omega, by omega, by omega, by omega, rfl, rfl, rfl, rfl, rfl, rfl⟩

theorem magic_eq : magic = tzMagic := rfl

theorem isHeader_iff (h : Bytes) (H : Hdr) (v : UInt8) :
    IsHeader h H v ↔ ∃ hdr, HeaderAt h hdr v ∧ toHdr hdr = H := by
  constructor
  · rintro ⟨c1, c2, c3, b1, b2, b3, b4, b5, b6⟩
    exact ⟨⟨H.timecnt, H.typecnt, H.charcnt, H.leapcnt, H.isstdcnt, H.isutcnt⟩,
      ⟨c1, c2, c3, (build_eq_some h _).2 ⟨b4, b5, b6, b3, b2, b1⟩⟩, rfl⟩
  · rintro ⟨hdr, ⟨c1, c2, c3, hb⟩, rfl⟩
    obtain ⟨b4, b5, b6, b3, b2, b1⟩ := (build_eq_some h hdr).1 hb
    exact ⟨c1, c2, c3, b1, b2, b3, b4, b5, b6⟩

/-- the record of the specification for six bytes -/
def recOf (r : Bytes) : Int × Bool × Nat := (be32 r, r.getD 4 0 != 0, (r.getD 5 0).toNat)

/-- the model's type for a record of the specification -/
def unprojT (t : Int × Bool × Nat) : TransitionType := { utcOffset := t.1, isDst := t.2.1, abbrIndex := t.2.2 }

theorem unprojT_recOf (r : Bytes) : unprojT (recOf r) = mkTT r := rfl
theorem projT_unprojT (t : Int × Bool × Nat) : projT (unprojT t) = t := rfl

theorem isBlock_lengths (timeLen : Nat) (H : Hdr) (blk : Bytes) (d : TzData)
    (hb : IsBlock timeLen H blk d) :
    d.times.length = H.timecnt ∧ d.idxs.length = H.timecnt ∧ d.types.length = H.typecnt := by
  obtain ⟨_, ts, ix, tys, _, _, _, _, a1, _, a3, a4, a5, a6, _, a8, _⟩ := hb
  refine ⟨by rw [a3, List.length_map, a1], by rw [a5, List.length_map, a4], by rw [a8, List.length_map, a6]⟩

/-- where the cursor of `Load` finds the parts of a block -/
theorem block_layout (timeLen : Nat) (hn : timeLen = 4 ∨ timeLen = 8) (hdr : Header) (tbuf : Bytes)
    (d : TzData) (hb : IsBlock timeLen (toHdr hdr) tbuf d) :
    timesAt hdr timeLen tbuf = d.times ∧ idxsAt hdr timeLen tbuf = d.idxs ∧
    (∃ (tys : List Bytes) (restT : Bytes), typesAt hdr timeLen tbuf = tys.flatten ++ restT ∧
      tys.length = hdr.typecnt ∧ (∀ r ∈ tys, r.length = 6) ∧ d.types = tys.map recOf) ∧
    abbrsAt hdr timeLen tbuf = d.abbrs := by
  obtain ⟨_, ts, ix, tys, leap, isstd, isut, rfl, a1, a2, a3, a4, a5, a6, a7, a8, a9, _, _, _⟩ := hb
  replace a1 : ts.length = hdr.timecnt := a1
  replace a4 : ix.length = hdr.timecnt := a4
  replace a6 : tys.length = hdr.typecnt := a6
  replace a9 : d.abbrs.length = hdr.charcnt := a9
  have l1 : ts.flatten.length = timeLen * hdr.timecnt := by rw [flatten_length timeLen ts a2, a1]
  have l2 : tys.flatten.length = 6 * hdr.typecnt := by rw [flatten_length 6 tys a7, a6]
  unfold abbrsAt typesAt idxsAt timesAt
  simp only [List.append_assoc]
  rw [List.drop_left' l1, List.take_left' a4, List.drop_left' a4, List.drop_left' l2,
    List.take_left' a9]
  refine ⟨?_, a5.symm, ⟨tys, _, rfl, a6, a7, a8⟩, rfl⟩
  rw [← a1, decodeTimes_flatten timeLen hn ts a2, a3]

def rawTrans (d : TzData) : Array Transition :=
  (List.zipWith (fun t i => ({ unixTime := t, typeIndex := i } : Transition)) d.times d.idxs).toArray
def rawTypes (d : TzData) : Array TransitionType := (d.types.map unprojT).toArray

/-- the checks on the type records, on the specification's records -/
def TypesOk (charcnt : Nat) (d : TzData) : Prop :=
  ∀ t ∈ d.types, (-86400 < t.1 ∧ t.1 < 86400) ∧ t.2.2 < charcnt

theorem loadTables_of (hdr : Header) (timeLen : Nat) (hn : timeLen = 4 ∨ timeLen = 8)
    (rest : Bytes) (version : UInt8) (tbuf : Bytes) (d : TzData) (spec : Bytes)
    (hb : IsBlock timeLen (toHdr hdr) tbuf d) (h1 : strictlyIncreasing d.times = true)
    (h2 : ∀ i ∈ d.idxs, i < hdr.typecnt) (h3 : TypesOk hdr.charcnt d)
    (h4 : footerOf version rest = some spec) :
    (loadTables hdr timeLen rest version tbuf).val =
      finish (zone0 (rawTrans d) (rawTypes d) (specDefaultType d) d.abbrs spec) := by
  obtain ⟨e1, e2, ⟨tys, restT, e3, e4, e5, e6⟩, e7⟩ := block_layout timeLen hn hdr tbuf d hb
  have e8 : transAt hdr timeLen tbuf = rawTrans d := by unfold transAt rawTrans; rw [e1, e2]
  have hok : ∀ r ∈ tys, TypeOk hdr.charcnt r := fun r hr =>
    have := h3 (recOf r) (by rw [e6]; exact List.mem_map_of_mem hr)
    ⟨this.1.1, this.1.2, this.2⟩
  have hT : (tys.map mkTT).toArray = rawTypes d := by
    unfold rawTypes
    rw [e6, List.map_map]
    rfl
  have hany : ¬ (d.idxs.any fun x => decide (x ≥ hdr.typecnt)) = true := fun h => by
    obtain ⟨i, hi, hge⟩ := List.any_eq_true.1 h
    have := h2 i hi
    simp at hge
    omega
  unfold loadTables
  rw [e1, e2, e3, e7, e8, h1, if_neg (by decide), if_neg hany,
    show decodeTypes (tys.flatten ++ restT) hdr.charcnt hdr.typecnt = some (tys.map mkTT) from
      e4 ▸ decodeTypes_flatten_ok hdr.charcnt tys e5 hok restT]
  dsimp only
  rw [hT, Ck.bind_val, h4, default_val d (rawTypes d) hdr
    (by unfold rawTypes; simp [projT_unprojT, Function.comp_def])
    (by unfold rawTypes; rw [List.size_toArray, List.length_map, e6, List.length_map, e4])
    (isBlock_lengths timeLen (toHdr hdr) tbuf d hb).2.1
    fun i hi => ⟨h2 i hi, idxsAt_lt hdr timeLen tbuf i (e2 ▸ hi)⟩]
  exact loadFinish_val _ _ _ _ _

theorem loadTables_ok (hdr : Header) (timeLen : Nat) (hn : timeLen = 4 ∨ timeLen = 8)
    (rest : Bytes) (version : UInt8) (tbuf : Bytes) (d : TzData) (z : Zone)
    (hb : IsBlock timeLen (toHdr hdr) tbuf d)
    (h : (loadTables hdr timeLen rest version tbuf).val = .ok z) :
    strictlyIncreasing d.times = true ∧ (∀ i ∈ d.idxs, i < hdr.typecnt) ∧ TypesOk hdr.charcnt d ∧
    ∃ spec, footerOf version rest = some spec ∧
      finish (zone0 (rawTrans d) (rawTypes d) (specDefaultType d) d.abbrs spec) = .ok z := by
  obtain ⟨e1, e2, ⟨tys, restT, e3, e4, e5, e6⟩, _⟩ := block_layout timeLen hn hdr tbuf d hb
  have h0 := h
  revert h
  refine loadTables_elim (P := fun x => x.val = .ok z → _) hdr timeLen rest version tbuf
    (fun h => by cases h) fun types h1 h2 h3 h => ?_
  rw [e1] at h1
  rw [e2] at h2
  rw [e3, ← e4] at h3
  have hT : TypesOk hdr.charcnt d := fun t ht => by
    rw [e6] at ht
    obtain ⟨r, hr, rfl⟩ := List.mem_map.1 ht
    obtain ⟨o1, o2, o3⟩ := decodeTypes_flatten_some hdr.charcnt tys e5 restT types h3 r hr
    exact ⟨⟨o1, o2⟩, o3⟩
  cases hf : footerOf version rest with
  | none => rw [Ck.bind_val, hf] at h; cases h
  | some spec =>
    rw [loadTables_of hdr timeLen hn rest version tbuf d spec hb h1 h2 hT hf] at h0
    exact ⟨h1, h2, hT, spec, rfl, h0⟩

theorem footerOf_some (version : UInt8) (rest spec : Bytes) (h : footerOf version rest = some spec) :
    (version = 0 ∧ spec = []) ∨
    (version ≠ 0 ∧ 10 ∉ spec ∧ ∃ trailing, rest = [10] ++ spec ++ [10] ++ trailing) := by
  unfold footerOf at h
  by_cases hv : version ≠ 0
  · rw [if_pos hv] at h
    right
    split at h
    · rename_i r
      dsimp only at h
      cases hd : r.dropWhile (· ≠ 10) with
      | nil => rw [hd] at h; cases h
      | cons x xs =>
        rw [hd] at h
        cases h
        obtain ⟨e, h1, h2⟩ := (Posix.span_iff (· ≠ 10) r _ _).1 ⟨rfl, hd⟩
        have hx : x = 10 := by simpa using h2 x rfl
        subst hx
        refine ⟨hv, fun hmem => by simpa using h1 10 hmem, xs, ?_⟩
        simp only [List.cons_append, List.nil_append, List.append_assoc]
        rw [← e]
    · cases h
  · rw [if_neg hv] at h
    cases h
    exact Or.inl ⟨Classical.not_not.1 hv, rfl⟩

theorem footerOf_of (version : UInt8) (spec trailing : Bytes) (hv : version ≠ 0) (h : 10 ∉ spec) :
    footerOf version ([10] ++ spec ++ [10] ++ trailing) = some spec := by
  obtain ⟨h1, h2⟩ := (Posix.span_iff (· ≠ 10) (spec ++ 10 :: trailing) spec (10 :: trailing)).2
    ⟨rfl, fun c hc => by simpa using fun e : c = 10 => h (e ▸ hc), fun c hc => by simpa using hc.symm⟩
  unfold footerOf
  rw [if_pos hv, show [10] ++ spec ++ [10] ++ trailing = 10 :: (spec ++ 10 :: trailing) by simp]
  show (if ((spec ++ 10 :: trailing).dropWhile (· ≠ 10)).isEmpty = true then none
    else some ((spec ++ 10 :: trailing).takeWhile (· ≠ 10))) = some spec
  rw [h1, h2]
  rfl

/-! ### every byte string of the right length is a block -/

/-- the content of a block, read off by position -/
def decodeBlock (timeLen : Nat) (H : Hdr) (blk footer : Bytes) (version : UInt8) : TzData :=
  let p1 := blk.drop (timeLen * H.timecnt)
  let p2 := p1.drop H.timecnt
  let p3 := p2.drop (6 * H.typecnt)
  { times := (chunks timeLen blk H.timecnt).map (if timeLen = 4 then be32 else be64)
    idxs := (p1.take H.timecnt).map (·.toNat)
    types := (chunks 6 p2 H.typecnt).map recOf
    abbrs := p3.take H.charcnt
    footer := footer
    version := version }

theorem length_take_drop (b : Bytes) (n m : Nat) (h : b.length = n + m) :
    (b.take n).length = n ∧ (b.drop n).length = m := by
  rw [List.length_take, List.length_drop]; omega

theorem decodeBlock_isBlock (timeLen : Nat) (H : Hdr) (blk footer : Bytes) (version : UInt8)
    (h : blk.length = blockLen timeLen H) :
    IsBlock timeLen H blk (decodeBlock timeLen H blk footer version) := by
  have hL : blk.length = timeLen * H.timecnt + (H.timecnt + (6 * H.typecnt + (H.charcnt +
      ((timeLen + 4) * H.leapcnt + (H.isstdcnt + H.isutcnt))))) := by
    rw [h, blockLen, Nat.add_mul, Nat.one_mul]; simp only [Nat.add_assoc]
  -- cut the parts off one after the other; each cut leaves the length of what remains
  obtain ⟨_, l1⟩ := length_take_drop _ _ _ hL
  obtain ⟨a2, l2⟩ := length_take_drop _ _ _ l1
  obtain ⟨_, l3⟩ := length_take_drop _ _ _ l2
  obtain ⟨a4, l4⟩ := length_take_drop _ _ _ l3
  obtain ⟨a5, l5⟩ := length_take_drop _ _ _ l4
  obtain ⟨a6, a7⟩ := length_take_drop _ _ _ l5
  refine ⟨h, chunks timeLen blk H.timecnt, _, chunks 6 _ H.typecnt, _, _, _, ?_,
    chunks_length _ _ _, chunks_each _ _ _ (by rw [hL]; exact Nat.le_add_right _ _), rfl, a2, rfl,
    chunks_length _ _ _, chunks_each _ _ _ (by rw [l2]; exact Nat.le_add_right _ _), rfl, a4, a5, a6, a7⟩
  simp only [decodeBlock, chunks_flatten, List.append_assoc, List.take_append_drop]

/-- the table `Load` hands to `ExtendTransitions` for a file with content `d` -/
def zoneOf (d : TzData) : Zone :=
  zone0 (rawTrans d) (rawTypes d) (specDefaultType d) d.abbrs d.footer

theorem body_ok (cfg : LoadCfg) (hdr : Header) (timeLen : Nat) (hn : timeLen = 4 ∨ timeLen = 8)
    (rest : Bytes) (version : UInt8) (z : Zone)
    (h : (loadBody cfg hdr timeLen rest version).val = .ok z) :
    ∃ (d : TzData) (blk rest' : Bytes), rest = blk ++ rest' ∧ IsBlock timeLen (toHdr hdr) blk d ∧
      Acceptable (toHdr hdr) d ∧ d.version = version ∧ footerOf version rest' = some d.footer ∧
      finish (zoneOf d) = .ok z := by
  revert h
  refine loadBody_elim (P := fun x => x.val = .ok z → _) cfg hdr timeLen rest version
    (fun h => by cases h) (fun h => by cases h) fun blk rest' e hc _ hl h => ?_
  have hlen : blk.length = blockLen timeLen (toHdr hdr) := by rw [← dataLength_eq]; exact hl
  obtain ⟨t1, t2, t3, spec, t4, t5⟩ := loadTables_ok hdr timeLen hn rest' version blk _ z
    (decodeBlock_isBlock timeLen (toHdr hdr) blk [] version hlen) h
  exact ⟨decodeBlock timeLen (toHdr hdr) blk spec version, blk, rest', e,
    decodeBlock_isBlock timeLen (toHdr hdr) blk spec version hlen,
    ⟨Nat.pos_of_ne_zero hc.1, hc.2.1, hc.2.2.1, hc.2.2.2, strictlyIncreasing_pairwise _ t1, t2,
      fun t ht => (t3 t ht).1, fun t ht => (t3 t ht).2⟩, rfl, t4, t5⟩

theorem body_of (cfg : LoadCfg) (hdr : Header) (timeLen : Nat) (hn : timeLen = 4 ∨ timeLen = 8)
    (blk rest : Bytes) (version : UInt8) (d : TzData) (hb : IsBlock timeLen (toHdr hdr) blk d)
    (ha : Acceptable (toHdr hdr) d) (hmax : blockLen timeLen (toHdr hdr) ≤ cfg.maxDataLen)
    (hf : footerOf version rest = some d.footer) :
    (loadBody cfg hdr timeLen (blk ++ rest) version).val = finish (zoneOf d) := by
  rw [loadBody_of cfg hdr timeLen blk rest version
      ⟨Nat.ne_of_gt ha.typecnt_pos, ha.no_leap, ha.isstd, ha.isut⟩ (by rw [dataLength_eq]; exact hmax)
      (by rw [dataLength_eq]; exact hb.1)]
  exact loadTables_of hdr timeLen hn rest version blk d d.footer hb
    (pairwise_strictlyIncreasing _ ha.increasing) ha.idx_lt
    (fun t ht => ⟨ha.utoff_lt t ht, ha.abbr_lt t ht⟩) hf

/-! ### `Load`: from a successful load to the layout -/

theorem load_ok_decodes (cfg : LoadCfg) (b : Bytes) (z : Zone) (h : (load cfg b).val = .ok z) :
    ∃ (hdr : Hdr) (d : TzData), IsTzif b hdr d ∧ Acceptable hdr d ∧ finish (zoneOf d) = .ok z := by
  revert h
  refine load_elim (P := fun x => x.val = .ok z → _) cfg b (fun h => by cases h)
    fun hdr timeLen rest v hh h => ?_
  rcases hh with ⟨h1, rfl, hH, rfl, rfl⟩ | ⟨h1, hdr1, v1, blk1, h2, rfl, hH1, hv1, hl, hH2, hv, rfl⟩
  · obtain ⟨d, blk, rest', rfl, e2, e3, e4, e5, e6⟩ := body_ok cfg hdr 4 (Or.inl rfl) rest 0 z h
    exact ⟨toHdr hdr, d, Or.inl ⟨h1, blk, rest', (List.append_assoc _ _ _).symm,
      (isHeader_iff _ _ _).2 ⟨hdr, hH, rfl⟩, e2, (Option.some.inj e5).symm, e4⟩, e3, e6⟩
  · obtain ⟨d, blk, rest', rfl, e2, e3, e4, e5, e6⟩ := body_ok cfg hdr 8 (Or.inr rfl) rest v z h
    rcases footerOf_some _ _ _ e5 with ⟨f1, _⟩ | ⟨_, f2, trailing, rfl⟩
    · exact absurd f1 hv
    refine ⟨toHdr hdr, d, Or.inr ⟨h1, toHdr hdr1, v1, blk1, h2, blk, d.footer, trailing, ?_,
      (isHeader_iff _ _ _).2 ⟨hdr1, hH1, rfl⟩, hv1, by rw [← dataLength_eq]; exact hl,
      by rw [e4]; exact (isHeader_iff _ _ _).2 ⟨hdr, hH2, rfl⟩, by rw [e4]; exact hv, e2, f2, rfl⟩, e3, e6⟩
    simp only [List.append_assoc]

/-! ### `Load`: from the layout to the result -/

theorem load_of_tzif (cfg : LoadCfg) (b : Bytes) (H : Hdr) (d : TzData) (hT : IsTzif b H d)
    (ha : Acceptable H d) (hmax : blockLen (if d.version = 0 then 4 else 8) H ≤ cfg.maxDataLen) :
    (load cfg b).val = finish (zoneOf d) := by
  rcases hT with ⟨h1, blk, trailing, rfl, hH, hB, hf, hv⟩ |
    ⟨h1, hdr1, v1, blk1, h2, blk2, footer, trailing, rfl, hH1, hv1, hl1, hH2, hv2, hB, hf1, hf2⟩
  · obtain ⟨hdr, hA, rfl⟩ := (isHeader_iff _ _ _).1 hH
    rw [load_of_heads cfg (Or.inl ⟨h1, List.append_assoc _ _ _, hA, rfl, rfl⟩)]
    rw [hv, if_pos rfl] at hmax
    exact body_of cfg hdr 4 (Or.inl rfl) blk trailing 0 d hB ha hmax (by rw [hf]; rfl)
  · obtain ⟨hdrA, hA, rfl⟩ := (isHeader_iff _ _ _).1 hH1
    obtain ⟨hdrB, hB', rfl⟩ := (isHeader_iff _ _ _).1 hH2
    rw [load_of_heads cfg (rest := blk2 ++ ([10] ++ footer ++ [10] ++ trailing)) (Or.inr ⟨h1, hdrA, v1,
      blk1, h2, by simp only [List.append_assoc], hA, hv1, by rw [dataLength_eq]; exact hl1, hB', hv2, rfl⟩)]
    rw [if_neg hv2] at hmax
    exact body_of cfg hdrB 8 (Or.inr rfl) blk2 _ d.version d hB ha hmax
      (by rw [hf2]; exact footerOf_of d.version footer trailing hv2 hf1)

end Cctz.Dc
