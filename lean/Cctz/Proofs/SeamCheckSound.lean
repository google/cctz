/-
  `seamOKb` decides `SeamOK` on a table with `TableWF`.
-/
import Cctz.Proofs.SeamCheck
import Cctz.Proofs.LtCheck
import Cctz.Proofs.TcSeg

namespace Cctz.Seam
open Cctz Cctz.Tz Cctz.Spec Cctz.TableCheck Cctz.Tc

section
variable {z : Zone} (wf : TableWF z) (ly : Int)
include wf

theorem below_of_check (h : ∀ j, j < z.transitions.size + 1 → belowAt z ly j = true) :
    ∀ u, u < lastT z - k400 → u + offAt z u < yearStart (ly - 399) := by
  intro u hu
  have hs := inSeg_segIndex wf u
  rw [offAt_eq]
  generalize segIndex z u = j at hs
  obtain ⟨hj, hj1, hj2⟩ := hs
  have hc := h j (by omega)
  unfold belowAt at hc
  simp only [Bool.or_eq_true, decide_eq_true_eq] at hc
  generalize hhi : (if j < z.transitions.size then min (timeOf z j) (lastT z - k400) else lastT z - k400) = hi
    at hc
  have : u < hi := by
    rw [← hhi]; split
    · have := hj2 ‹_›; omega
    · exact hu
  rcases hc with ⟨h0, hc⟩ | hc
  · have := hj1 (by omega); omega
  · omega

theorem check_of_below (h : ∀ u, u < lastT z - k400 → u + offAt z u < yearStart (ly - 399)) :
    ∀ j, j < z.transitions.size + 1 → belowAt z ly j = true := by
  intro j hj
  unfold belowAt
  simp only [Bool.or_eq_true, decide_eq_true_eq]
  generalize hhi : (if j < z.transitions.size then min (timeOf z j) (lastT z - k400) else lastT z - k400) = hi
  by_cases hc : j ≠ 0 ∧ hi ≤ timeOf z (j - 1)
  · exact Or.inl hc
  · right
    have h1 : hi ≤ lastT z - k400 := by
      rw [← hhi]; split <;> omega
    have h2 : j < z.transitions.size → hi ≤ timeOf z j := by
      intro hjn; rw [← hhi, if_pos hjn]; omega
    have hseg : InSeg z j (hi - 1) := ⟨by omega, fun h0 => by omega, fun hjn => by have := h2 hjn; omega⟩
    have := h (hi - 1) (by omega)
    rw [offAt_eq, segIndex_of_inSeg wf hseg] at this
    exact this

theorem window_of_check (h : ∀ j, j < z.transitions.size → windowAt z ly j = true) :
    ∀ t, lastT z - k400 ≤ t → t < lastT z →
      (t + lastOff z < yearStart (ly - 399) ∨ t + offAt z t < yearStart (ly - 399)) →
      offAt z t = lastOff z := by
  intro t ht1 ht2
  have hn := wf.nonempty
  have hs := inSeg_segIndex wf t
  rw [offAt_eq]
  generalize segIndex z t = j at hs
  obtain ⟨hj, hj1, hj2⟩ := hs
  have hjn : j < z.transitions.size := by
    rcases Nat.lt_or_ge j z.transitions.size with h' | h'
    · exact h'
    · have := hj1 (by omega)
      rw [show j - 1 = z.transitions.size - 1 by omega] at this
      unfold lastT at ht2; omega
  have hc := h j hjn
  unfold windowAt at hc
  simp only [Bool.or_eq_true, Bool.and_eq_true, decide_eq_true_eq] at hc
  generalize hlo : (if j = 0 then lastT z - k400 else max (timeOf z (j - 1)) (lastT z - k400)) = lo at hc
  have : lo ≤ t := by
    rw [← hlo]; split
    · exact ht1
    · have := hj1 (by omega); omega
  have := hj2 hjn
  intro hd
  rcases hc with (hc | hc) | hc
  · omega
  · exact hc
  · omega

theorem check_of_window (h : ∀ t, lastT z - k400 ≤ t → t < lastT z →
      (t + lastOff z < yearStart (ly - 399) ∨ t + offAt z t < yearStart (ly - 399)) →
      offAt z t = lastOff z) :
    ∀ j, j < z.transitions.size → windowAt z ly j = true := by
  intro j hjn
  unfold windowAt
  simp only [Bool.or_eq_true, Bool.and_eq_true, decide_eq_true_eq]
  generalize hlo : (if j = 0 then lastT z - k400 else max (timeOf z (j - 1)) (lastT z - k400)) = lo
  by_cases h1 : min (timeOf z j) (lastT z) ≤ lo
  · exact Or.inl (Or.inl h1)
  · by_cases h2 : offBefore z j = lastOff z
    · exact Or.inl (Or.inr h2)
    · right
      have hl1 : lastT z - k400 ≤ lo := by rw [← hlo]; split <;> omega
      have hl2 : 0 < j → timeOf z (j - 1) ≤ lo := by
        intro h0; rw [← hlo, if_neg (by omega)]; omega
      have hseg : InSeg z j lo := ⟨by omega, hl2, fun _ => by omega⟩
      have := h lo hl1 (by omega)
      rw [offAt_eq, segIndex_of_inSeg wf hseg] at this
      exact ⟨Int.not_lt.1 fun h' => h2 (this (Or.inl h')), Int.not_lt.1 fun h' => h2 (this (Or.inr h'))⟩

theorem seamAtb_iff : seamAtb z ly = true ↔ SeamAt z ly := by
  unfold seamAtb
  simp only [Bool.and_eq_true, decide_eq_true_eq]
  constructor
  · rintro ⟨⟨⟨h1, h2⟩, h3⟩, h4⟩
    exact ⟨h1, h2, below_of_check wf ly (Lt.allIdx_sound h3), window_of_check wf ly (Lt.allIdx_sound h4)⟩
  · rintro ⟨h1, h2, h3, h4⟩
    exact ⟨⟨⟨h1, h2⟩, Lt.allIdx_complete (check_of_below wf ly h3)⟩,
      Lt.allIdx_complete (check_of_window wf ly h4)⟩

end

theorem seamOKb_spec (z : Zone) (wf : TableWF z) : seamOKb z = true ↔ SeamOK z := by
  unfold seamOKb SeamOK
  cases hx : z.extended with
  | false => simp
  | true =>
    simp only [Bool.not_true, Bool.false_or, forall_const]
    cases hl : z.lastYear with
    | none => simp
    | some ly =>
      simp only [Option.some.injEq, exists_eq_left']
      exact seamAtb_iff wf ly

theorem seamOKb_sound (z : Zone) (wf : TableWF z) (h : seamOKb z = true) : SeamOK z :=
  (seamOKb_spec z wf).1 h

theorem shiftRoomb_iff (z : Zone) : shiftRoomb z = true ↔ ShiftRoom z := by
  unfold shiftRoomb ShiftRoom
  cases z.extended <;> simp

end Cctz.Seam
