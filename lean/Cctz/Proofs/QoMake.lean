/-
  C10: `MakeTime` / `convert` raise no overflow flag on a tame table, and their results are
  `int64` values.
-/
import Cctz.Proofs.QoBreak
import Cctz.Proofs.TcMake
import Cctz.Proofs.TcShift

namespace Cctz.Qo
open Cctz Cctz.Tz Cctz.Spec

def NHolds (x : Ck α) (Q : α → Prop) : Prop := NoOvf x ∧ Q x.val

theorem nh_pure {Q : α → Prop} (a : α) (h : Q a) : NHolds (pure a : Ck α) Q := ⟨novf_pure a, h⟩

theorem nh_bind {x : Ck α} {f : α → Ck β} {Q : β → Prop} (hx : NoOvf x) (hf : NHolds (f x.val) Q) :
    NHolds (x >>= f) Q := ⟨novf_bind_of hx hf.1, hf.2⟩

theorem nh_chk64 {f : Int → Ck β} {Q : β → Prop} {x : Int} (hx : inI64 x) (hf : NHolds (f x) Q) :
    NHolds (chk64 x >>= f) Q := nh_bind ((novf_chk64 x).2 hx) hf

theorem nh_diff {f : Int → Ck β} {Q : β → Prop} {a b : Fields} (va : Valid a) (vb : Valid b)
    (hya : inI64 a.y) (hyb : inI64 b.y) (hr : inI64 (secNum a - secNum b))
    (hf : NHolds (f (secNum a - secNum b)) Q) : NHolds (Civil.difference .second a b >>= f) Q := by
  refine nh_bind (novf_of_ok (difference_ok .second a b va vb trivial trivial hya hyb hr)) ?_
  rw [difference_val .second a b va vb trivial trivial]; exact hf

theorem nh_getTrans {f : Transition → Ck β} {Q : β → Prop} {z : Zone} {i : Nat}
    (hf : NHolds (f (trn z i)) Q) : NHolds (getTrans z i >>= f) Q := by
  refine nh_bind (novf_getTrans _ _) ?_
  rw [Tl.getTrans_val]; exact hf

theorem nh_getType {f : TransitionType → Ck β} {Q : β → Prop} {z : Zone} {i : Nat}
    (hf : NHolds (f (typ z i)) Q) : NHolds (getType z i >>= f) Q := by
  refine nh_bind (novf_getType _ _) ?_
  rw [Tl.getType_val]; exact hf

def InR (cl : CivilLookup) : Prop := inI64 cl.pre ∧ inI64 cl.trans ∧ inI64 cl.post

theorem inR_unique {t : Int} (h : inI64 t) : InR (mkUnique t) := ⟨h, h, h⟩

theorem makeSkipped_nh {z : Zone} (tm : Tame z) {i : Nat} (hi : i < z.transitions.size) (cs : Fields)
    (vcs : Valid cs) (hy : inI64 cs.y) (h1 : timeOf z i + offBefore z i - 1 < secNum cs)
    (h2 : secNum cs < timeOf z i + offOf z i) : NHolds (makeSkipped (trn z i) cs) InR := by
  have e := entry tm hi
  have ⟨_, _, sc, sp, _, _, _, _, _, _, _, _⟩ := e
  unfold makeSkipped
  simp only [unixTime_eq]
  refine nh_diff vcs e.vp hy e.yp (inI64_of_bounds (by omega)) ?_
  refine nh_chk64 (inI64_of_bounds (by omega)) ?_
  refine nh_chk64 (inI64_of_bounds (by omega)) ?_
  refine nh_diff e.vc vcs e.yc hy (inI64_of_bounds (by omega)) ?_
  refine nh_chk64 (inI64_of_bounds (by omega)) ?_
  refine nh_pure _ ⟨?_, ?_, ?_⟩ <;> simp only [inI64, i64min, i64max] <;> omega

theorem makeRepeated_nh {z : Zone} (tm : Tame z) {i : Nat} (hi : i < z.transitions.size) (cs : Fields)
    (vcs : Valid cs) (hy : inI64 cs.y) (h1 : timeOf z i + offOf z i ≤ secNum cs)
    (h2 : secNum cs ≤ timeOf z i + offBefore z i - 1) : NHolds (makeRepeated (trn z i) cs) InR := by
  have e := entry tm hi
  have ⟨_, _, sc, sp, _, _, _, _, _, _, _, _⟩ := e
  unfold makeRepeated
  simp only [unixTime_eq]
  refine nh_diff e.vp vcs e.yp hy (inI64_of_bounds (by omega)) ?_
  refine nh_chk64 (inI64_of_bounds (by omega)) ?_
  refine nh_chk64 (inI64_of_bounds (by omega)) ?_
  refine nh_diff vcs e.vc hy e.yc (inI64_of_bounds (by omega)) ?_
  refine nh_chk64 (inI64_of_bounds (by omega)) ?_
  refine nh_pure _ ⟨?_, ?_, ?_⟩ <;> simp only [inI64, i64min, i64max] <;> omega


/-- the postcondition of the answering phase: instants in range -/
def AnsR (z : Zone) (cs : Fields) (r : (CivilLookup ⊕ Int) × Nat) : Prop :=
  (∀ cl, r.1 = .inl cl → InR cl) ∧
  (∀ s, r.1 = .inr s → z.extended = true ∧
    ∃ ly, z.lastYear = some ly ∧ cs.y > ly ∧ s = (cs.y - ly - 1) / 400 + 1)

theorem ansR_inl {z : Zone} {cs : Fields} {cl : CivilLookup} {h : Nat} (hc : InR cl) :
    AnsR z cs (.inl cl, h) := by
  constructor
  · intro c hc'; cases hc'; exact hc
  · intro s hs; cases hs

theorem nh_bind_nh {x : Ck α} {f : α → Ck β} {P : α → Prop} {Q : β → Prop} (hx : NHolds x P)
    (hf : ∀ a, P a → NHolds (f a) Q) : NHolds (x >>= f) Q := nh_bind hx.1 (hf _ hx.2)

theorem headAns_nh {z : Zone} (tm : Tame z) (cs : Fields) (vcs : Valid cs) (hy : inI64 cs.y)
    (hp : secNum cs ≤ timeOf z 0 + offBefore z 0 - 1) (h' : Nat) :
    NHolds (Tc.headAns z cs h') (AnsR z cs) := by
  have ⟨vmin, smin⟩ := tm.cols.tmin _ tm.wf.defaultIdx
  have hoff := Tc.offBefore_zero z
  have hob := dflt_bd tm
  have ht := tm.halves.1
  unfold Tc.headAns
  refine nh_getType ?_
  by_cases hm : Civil.lt cs (typ z z.defaultType).civilMin = true
  · rw [if_pos hm]
    exact nh_pure _ (ansR_inl (inR_unique (by decide)))
  · rw [if_neg hm]
    rw [lt_iff_secNum vcs vmin, smin] at hm
    have ⟨vb, _, sb⟩ := civilAdd_spec .second epoch (typ z z.defaultType).utcOffset Tl.valid_epoch trivial
    simp only [unitNum, Tl.secNum_epoch] at sb
    have se := Tl.secNum_epoch
    refine nh_bind (civilAdd_novf _ _ Tl.valid_epoch (by omega) (by omega)
      (inI64_of_bounds (by omega)) (by omega) (by omega)) ?_
    simp only [i64min] at hm
    refine nh_diff vcs vb hy (year_inI64 vb (by omega) (by omega))
      (inI64_of_bounds (by omega)) ?_
    exact nh_pure _ (ansR_inl (inR_unique (inI64_of_bounds (by omega))))

theorem uniqueAns_nh {z : Zone} (tm : Tame z) {i : Nat} (hi : i < z.transitions.size) (cs : Fields)
    (vcs : Valid cs) (hy : inI64 cs.y) (h1 : timeOf z i + offOf z i ≤ secNum cs)
    (h2 : secNum cs - offOf z i ≤ i64max) (h3 : secNum cs - (timeOf z i + offOf z i) ≤ i64max)
    (h' : Nat) : NHolds (Tc.uniqueAns (trn z i) cs h') (AnsR z cs) := by
  have e := entry tm hi
  have ⟨_, _, sc, _, _, _, _, _, _, _, _, _⟩ := e
  simp only [i64max] at h2 h3
  unfold Tc.uniqueAns
  refine nh_diff vcs e.vc hy e.yc (inI64_of_bounds (by omega)) ?_
  simp only [unixTime_eq]
  refine nh_chk64 (inI64_of_bounds (by omega)) ?_
  exact nh_pure _ (ansR_inl (inR_unique (inI64_of_bounds (by omega))))

theorem tailAns_nh {z : Zone} (tm : Tame z) (cs : Fields) (vcs : Valid cs) (hy : inI64 cs.y)
    (hk1 : timeOf z (z.transitions.size - 1) + offOf z (z.transitions.size - 1) ≤ secNum cs)
    (h' : Nat) : NHolds (Tc.tailAns z cs (trn z (z.transitions.size - 1)) h') (AnsR z cs) := by
  have hn := tm.wf.nonempty
  have hl : z.transitions.size - 1 < z.transitions.size := by omega
  have e := entry tm hl
  have ⟨_, _, sc, _, _, _, _, _, _, _, _, _⟩ := e
  have hL := tm.halves.2
  have ⟨vmax, smax⟩ := tm.cols.tmax _ (tm.wf.typeIdx _ hl)
  have htail : NHolds (do
        let tt ← getType z (trn z (z.transitions.size - 1)).typeIndex
        if Civil.lt tt.civilMax cs = true then pure (Sum.inl (mkUnique i64max), h')
          else Tc.uniqueAns (trn z (z.transitions.size - 1)) cs h' : Tc.Ans) (AnsR z cs) := by
    refine nh_getType ?_
    by_cases hm : Civil.lt (typ z (trn z (z.transitions.size - 1)).typeIndex).civilMax cs = true
    · rw [if_pos hm]
      exact nh_pure _ (ansR_inl (inR_unique (by decide)))
    · rw [if_neg hm]
      rw [lt_iff_secNum vmax vcs, smax] at hm
      have ho : offOf z (z.transitions.size - 1) =
        (typ z (trn z (z.transitions.size - 1)).typeIndex).utcOffset := rfl
      exact uniqueAns_nh tm hl cs vcs hy hk1 (by omega) (by simp only [i64max] at hm ⊢; omega) h'
  unfold Tc.tailAns
  by_cases hext : z.extended = true
  · rw [if_pos hext]
    obtain ⟨ly, hly, hL', hly1, hly2, hyl⟩ := tm.ext hext
    have h2196 := year_ge_2196 e.vc (by omega)
    rw [hly]
    refine nh_bind rfl ?_
    rw [Tl.rd_val_some]
    by_cases hgt : cs.y > ly
    · rw [if_pos hgt]
      simp only [inI64, i64min, i64max] at hy
      refine nh_chk64 (inI64_of_bounds (by omega)) ?_
      refine nh_chk64 (inI64_of_bounds (by omega)) ?_
      rw [cdiv_of_nonneg _ (by omega)]
      refine nh_chk64 (inI64_of_bounds (by omega)) ?_
      refine nh_pure _ ⟨?_, ?_⟩
      · intro c hc'; cases hc'
      · intro s hs; cases hs
        exact ⟨hext, ly, hly, hgt, rfl⟩
    · rw [if_neg hgt]
      exact htail
  · rw [if_neg hext]
    exact htail

theorem answerAt_nh {z : Zone} (tm : Tame z) (cs : Fields) (vcs : Valid cs) (hy : inI64 cs.y)
    (k h' : Nat) (hk : Tc.FirstAfter z (secNum cs) k) :
    NHolds (Tc.answerAt z cs (trn z 0) (trn z (z.transitions.size - 1)) k h') (AnsR z cs) := by
  have hn := tm.wf.nonempty
  obtain ⟨hkn, hk1, hk2⟩ := hk
  refine Tc.answerAt_cases tm.wf tm.cols vcs hkn h' (M := fun a => NHolds a (AnsR z cs))
    ?_ ?_ ?_ ?_ ?_
  · intro _ hp
    exact headAns_nh tm cs vcs hy hp h'
  · intro kn _
    subst kn
    exact tailAns_nh tm cs vcs hy (hk1 hn) h'
  · intro h0 hkl _ hq
    have e := entry tm (show k - 1 < z.transitions.size by omega)
    have e2 := entry tm hkl
    have := hk1 h0
    exact uniqueAns_nh tm (by omega) cs vcs hy this
      (by have := e.olo; have := e2.thi; have := e2.bhi; simp only [i64max]; omega)
      (by have := e.tlo; have := e.olo; have := e2.thi; have := e2.bhi; simp only [i64max]; omega) h'
  · intro hkl hp
    exact nh_bind_nh (makeSkipped_nh tm hkl cs vcs hy hp (hk2 hkl)) fun r hr => nh_pure _ (ansR_inl hr)
  · intro h0 hq
    exact nh_bind_nh (makeRepeated_nh tm (by omega) cs vcs hy (hk1 h0) hq) fun r hr =>
      nh_pure _ (ansR_inl hr)

theorem makeTimeCore_nh {z : Zone} (tm : Tame z) (hint : Nat) (cs : Fields) (vcs : Valid cs)
    (hy : inI64 cs.y) : NHolds (makeTimeCore z hint cs) (AnsR z cs) := by
  rw [Tc.makeTimeCore_eq]
  refine nh_getTrans (nh_getTrans ?_)
  refine nh_bind (congrArg Flags.ovf (Tc.findTr_flags ..)) ?_
  exact answerAt_nh tm cs vcs hy _ _ (Tc.firstAfter_of_split tm.cols vcs
    (Tc.findTr_split z hint cs tm.wf.nonempty (Tb.civilSorted_mono tm.sorted cs)))


theorem tame_ly {z : Zone} (tm : Tame z) (hext : z.extended = true) :
    ∃ ly, z.lastYear = some ly ∧ 2195 ≤ ly ∧ ly ≤ 40000000000 := by
  have hn := tm.wf.nonempty
  have hl : z.transitions.size - 1 < z.transitions.size := by omega
  obtain ⟨ly, hly, hL', hly1, hly2, hyl⟩ := tm.ext hext
  have e := entry tm hl
  have ⟨_, _, sc, _, _, _, _, _, _, _, _, _⟩ := e
  have h2196 := year_ge_2196 e.vc (by omega)
  exact ⟨ly, hly, by omega, hly2⟩

theorem timeLocalShift_nh (cl : CivilLookup) (s : Int) (hs : 1 ≤ s) (hc : InR cl) :
    NHolds (timeLocalShift cl s) InR := by
  obtain ⟨h1, h2, h3⟩ := hc
  unfold timeLocalShift
  have hcd : cdiv i64max Gen.kSecsPer400Years = 730692561 := by decide
  have hk : Gen.kSecsPer400Years = 12622780800 := rfl
  rw [hcd, hk]
  by_cases hgt : s > 730692561
  · rw [if_pos hgt]
    have hm : inI64 i64max := by decide
    exact nh_pure _ ⟨hm, hm, hm⟩
  · rw [if_neg hgt]
    refine nh_chk64 (inI64_of_bounds (by omega)) ?_
    refine nh_chk64 (by simp only [inI64, i64min, i64max]; omega) ?_
    have hf : ∀ tp : Int, inI64 tp →
        NHolds (if tp > i64max - s * 12622780800 then pure i64max else chk64 (tp + s * 12622780800))
          inI64 := by
      intro tp htp
      split
      · exact nh_pure _ (by decide)
      · rename_i hle
        simp only [inI64, i64min, i64max] at htp hle
        exact ⟨(novf_chk64 _).2 (inI64_of_bounds (by omega)),
          by rw [chk64_val]; simp only [inI64, i64min, i64max]; omega⟩
    refine nh_bind_nh (hf _ h1) fun a ha => ?_
    refine nh_bind_nh (hf _ h2) fun b hb => ?_
    refine nh_bind_nh (hf _ h3) fun c hc => ?_
    exact nh_pure _ ⟨ha, hb, hc⟩

theorem makeTime_nh {z : Zone} (tm : Tame z) (hint : Nat) (cs : Fields) (vcs : Valid cs)
    (hy : inI64 cs.y) : NHolds (makeTime z hint cs) (fun r => InR r.1) := by
  have hc := makeTimeCore_nh tm hint cs vcs hy
  unfold makeTime
  refine nh_bind hc.1 ?_
  have hc2 := hc.2
  generalize (makeTimeCore z hint cs).val = p at hc2 ⊢
  obtain ⟨r, h⟩ := p
  cases r with
  | inl cl => exact nh_pure _ (hc2.1 cl rfl)
  | inr s =>
    obtain ⟨hext, ly, hly, hgt, hs⟩ := hc2.2 s rfl
    obtain ⟨ly', hly', lo, hi⟩ := tame_ly tm hext
    rw [hly] at hly'
    cases hly'
    dsimp only
    simp only [inI64, i64min, i64max] at hy
    have hs1 : 1 ≤ s := by omega
    refine nh_chk64 (inI64_of_bounds (by omega)) ?_
    have hv := Tc.shiftYear_valid cs vcs (-s)
    have hb := Tc.yearShift_back cs vcs s
    rw [show cs.y + 400 * -s = cs.y - 400 * s by omega] at hv
    have hy' : inI64 (cs.y - 400 * s) := by simp only [inI64, i64min, i64max]; omega
    refine nh_bind (by
      rw [show s * -400 = (-s) * 400 by omega]
      exact yearShift_novf cs vcs (-s) (inI64_of_bounds (by omega))) ?_
    rw [hb]
    have hc' := makeTimeCore_nh tm h _ hv.1 hy'
    refine nh_bind hc'.1 ?_
    have hc3 := hc'.2
    generalize (makeTimeCore z h { cs with y := cs.y - 400 * s }).val = p2 at hc3 ⊢
    obtain ⟨r2, h2⟩ := p2
    cases r2 with
    | inl cl =>
      exact nh_bind_nh (timeLocalShift_nh cl s hs1 (hc3.1 cl rfl)) fun a ha => nh_pure _ ha
    | inr s2 =>
      have h0 : inI64 0 := by decide
      exact ⟨rfl, h0, h0, h0⟩

theorem convert_novf {z : Zone} (tm : Tame z) (hint : Nat) (cs : Fields) (vcs : Valid cs)
    (hy : inI64 cs.y) : NoOvf (convert z hint cs) := by
  unfold convert
  exact novf_bind_of (makeTime_nh tm hint cs vcs hy).1 (novf_pure _)

end Cctz.Qo
