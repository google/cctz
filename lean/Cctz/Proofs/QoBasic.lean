/-
  C10 (no signed overflow in the zone queries on tame tables): the "no `ovf` flag" predicate
  and its algebra, year bounds from second counts, and the numeric consequences of `Tame`.

  A computation is `ok` iff it is `Safe` (no oob / unset / fuel flag; proved for all queries under
  `TableIdx` in Cctz/Proofs/LdQuery.lean) and `NoOvf`.  The files `Qo*.lean` prove `NoOvf`.
-/
import Cctz.Model.Tz
import Cctz.Spec.TableSem
import Cctz.Spec.TableTame
import Cctz.Proofs.CivilArith
import Cctz.Proofs.LdQuery
import Cctz.Proofs.TableLookup
import Cctz.Proofs.TlSaturate

namespace Cctz.Qo
open Cctz Cctz.Tz Cctz.Spec

/-- the signed-overflow flag is not raised -/
def NoOvf (x : Ck α) : Prop := x.flags.ovf = false

theorem ok_iff (x : Ck α) : x.ok ↔ Wd.Safe x ∧ NoOvf x := by
  obtain ⟨v, ⟨a, b, c, d⟩⟩ := x
  simp only [Ck.ok, Flags.none, Wd.Safe, NoOvf, Flags.mk.injEq]
  constructor
  · rintro ⟨h1, h2, h3, h4⟩; exact ⟨⟨h2, h4, h3⟩, h1⟩
  · rintro ⟨⟨h2, h4, h3⟩, h1⟩; exact ⟨h1, h2, h3, h4⟩

theorem novf_of_ok {x : Ck α} (h : x.ok) : NoOvf x := ((ok_iff x).1 h).2

theorem novf_pure (a : α) : NoOvf (pure a : Ck α) := rfl

theorem novf_chk64 (x : Int) : NoOvf (chk64 x) ↔ inI64 x := by
  simp [NoOvf, chk64]

theorem novf_bind (x : Ck α) (f : α → Ck β) : NoOvf (x >>= f) ↔ NoOvf x ∧ NoOvf (f x.val) := by
  simp only [NoOvf, Ck.bind_flags, Flags.or, Bool.or_eq_false_iff]

theorem novf_bind' (x : Ck α) (f : α → Ck β) : NoOvf (x.bind' f) ↔ NoOvf x ∧ NoOvf (f x.val) :=
  novf_bind x f

theorem novf_ite {c : Prop} [Decidable c] {x y : Ck α} (hx : c → NoOvf x) (hy : ¬ c → NoOvf y) :
    NoOvf (if c then x else y) := by
  split
  · exact hx ‹_›
  · exact hy ‹_›

theorem novf_getTrans (z : Zone) (i : Nat) : NoOvf (getTrans z i) := by
  unfold getTrans; split <;> rfl

theorem novf_getType (z : Zone) (i : Nat) : NoOvf (getType z i) := by
  unfold getType; split <;> rfl

/-! ### years from second counts -/

/-- a valid civil second whose second number is within `int64` ± 100000 has a year far inside
`int64` -/
theorem year_bounds {f : Fields} (v : Valid f) (lo : -9223372036854875808 ≤ secNum f)
    (hi : secNum f ≤ 9223372036854875807) : -292277022660 ≤ f.y ∧ f.y ≤ 292277026598 := by
  constructor
  · have vw : Valid ⟨-292277022660, 1, 1, 0, 0, 0⟩ := by decide
    have hw : secNum ⟨-292277022660, 1, 1, 0, 0, 0⟩ ≤ -9223372036854875808 := by decide
    exact year_le_of_unitNum_le .second vw v trivial trivial (by simp only [unitNum]; omega)
  · have vw : Valid ⟨292277026598, 1, 1, 0, 0, 0⟩ := by decide
    have hw : 9223372036854875807 ≤ secNum ⟨292277026598, 1, 1, 0, 0, 0⟩ := by decide
    exact year_le_of_unitNum_le .second v vw trivial trivial (by simp only [unitNum]; omega)

theorem year_inI64 {f : Fields} (v : Valid f) (lo : -9223372036854875808 ≤ secNum f)
    (hi : secNum f ≤ 9223372036854875807) : inI64 f.y := by
  have := year_bounds v lo hi
  simp only [inI64, i64min, i64max]; omega

/-- from December 2196 on the year is at least 2196 -/
theorem year_ge_2196 {f : Fields} (v : Valid f) (lo : 7161057007 ≤ secNum f) : 2196 ≤ f.y := by
  have vw : Valid ⟨2196, 1, 1, 0, 0, 0⟩ := by decide
  have hw : secNum ⟨2196, 1, 1, 0, 0, 0⟩ ≤ 7161057007 := by decide
  exact year_le_of_unitNum_le .second vw v trivial trivial (by simp only [unitNum]; omega)

/-! ### civil arithmetic on second numbers -/

theorem civilAdd_novf (a : Fields) (n : Int) (va : Valid a)
    (lo : -9223372036854875808 ≤ secNum a) (hi : secNum a ≤ 9223372036854875807) (hn : inI64 n)
    (lo' : -9223372036854875808 ≤ secNum a + n) (hi' : secNum a + n ≤ 9223372036854875807) :
    NoOvf (Civil.civilAdd .second a n) := by
  obtain ⟨v1, _, u1⟩ := civilAdd_spec .second a n va trivial
  simp only [unitNum] at u1
  exact novf_of_ok (civilAdd_ok .second a n va trivial (year_inI64 va lo hi) hn
    (year_inI64 v1 (by omega) (by omega)))

/-! ### numeric consequences of `Tame` -/

theorem tame_idx {z : Zone} (tm : Tame z) : TableIdx z :=
  ⟨tm.wf.nonempty, tm.wf.typeIdx, tm.wf.defaultIdx, fun h => by
    obtain ⟨ly, hly, _⟩ := tm.ext h
    rw [hly]; rfl⟩

theorem dflt_bd {z : Zone} (tm : Tame z) :
    -90000 < (typ z z.defaultType).utcOffset ∧ (typ z z.defaultType).utcOffset < 90000 :=
  tm.offs _ tm.wf.defaultIdx

/-- facts about table entry `i` in one bundle: validity of both civil columns, their second numbers,
and the sizes of everything involved -/
structure Entry (z : Zone) (i : Nat) : Prop where
  vc : Valid (trn z i).civilSec
  vp : Valid (trn z i).prevCivilSec
  sc : secNum (trn z i).civilSec = timeOf z i + offOf z i
  sp : secNum (trn z i).prevCivilSec = timeOf z i + offBefore z i - 1
  tlo : -1152921504606846976 ≤ timeOf z i
  thi : timeOf z i ≤ 1152921504606846976
  olo : -90000 < offOf z i
  ohi : offOf z i < 90000
  blo : -90000 < offBefore z i
  bhi : offBefore z i < 90000
  yc : inI64 (trn z i).civilSec.y
  yp : inI64 (trn z i).prevCivilSec.y

theorem entry {z : Zone} (tm : Tame z) {i : Nat} (hi : i < z.transitions.size) : Entry z i := by
  obtain ⟨vc, sc⟩ := tm.cols.civ i hi
  obtain ⟨vp, sp⟩ := tm.cols.prev i hi
  obtain ⟨tlo, thi⟩ := tm.times i hi
  obtain ⟨olo, ohi⟩ : -90000 < offOf z i ∧ offOf z i < 90000 := tm.offs _ (tm.wf.typeIdx i hi)
  obtain ⟨blo, bhi⟩ : -90000 < offBefore z i ∧ offBefore z i < 90000 :=
    tm.offs _ (Tl.prevType_lt z tm.wf i)
  exact ⟨vc, vp, sc, sp, tlo, thi, olo, ohi, blo, bhi,
    year_inI64 vc (by omega) (by omega), year_inI64 vp (by omega) (by omega)⟩

theorem unixTime_eq (z : Zone) (i : Nat) : (trn z i).unixTime = timeOf z i := rfl

end Cctz.Qo
