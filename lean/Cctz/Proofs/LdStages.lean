/-
  `Tz.load` cut into stages (headers, counts and data block, tables, tail from the first sentinel on),
  each literally the corresponding part of `Tz.load` (`load_eq` is by `rfl`).  A stage with checks has
  a computation rule for when they pass and an elimination rule that hands over what they establish;
  the passes over `Load` (memory safety, table predicates, decoded content) go through these.
-/
import Cctz.Model.Tz

namespace Cctz.Ld
open Cctz Cctz.Tz

/-- from the first-half sentinel to the end -/
def loadFinish (trans : Array Transition) (types : Array TransitionType) (defaultType : Nat)
    (abbrs spec : Bytes) : Ck LoadResult := do
  let trans :=
    if trans.isEmpty ∨ ((trans[0]?.map (·.unixTime)).getD 0 : Int) ≥ 0 then
      #[({ unixTime := Gen.sentinelFirst, typeIndex := defaultType } : Transition)] ++ trans
    else trans
  let z : Zone := { transitions := trans, types := types, defaultType := defaultType,
                    abbreviations := abbrs, futureSpec := spec }
  match ← extendTransitions z with
  | none => return .fail
  | some z =>
  let last ← getTrans z (z.transitions.size - 1)
  let z := if last.unixTime < 0 then
      { z with transitions := z.transitions.push { unixTime := Gen.sentinelSecond, typeIndex := last.typeIndex } }
    else z
  match ← fillCivil z with
  | none => return .fail
  | some z =>
  let z ← fillTypes z
  return .ok z

/-- the footer as `Load` reads it from what follows the block -/
def footerOf (version : UInt8) (rest : Bytes) : Option Bytes :=
  if version ≠ 0 then
    match rest with
    | 10 :: r =>
      let spec := r.takeWhile (· ≠ 10)
      if (r.dropWhile (· ≠ 10)).isEmpty then none else some spec
    | _ => none
  else some []

def defaultTypeCk (types : Array TransitionType) (hdr : Header) (idxs : List Nat) : Ck Nat :=
  if idxs.any (· = 0) ∧ hdr.timecnt ≠ 0 then do
    let (idx, typecnt) ← defaultTypeSearch types hdr.typecnt (idxs.headD 0)
    pure (if idx ≠ typecnt then idx else 0)
  else pure 0

/-- the parts of the block where the cursor of `Load` finds them: times, type indices, the start of the
type records, the (time, type) table before the sentinels, the designations -/
def timesAt (hdr : Header) (timeLen : Nat) (tbuf : Bytes) : List Int := decodeTimes tbuf timeLen hdr.timecnt
def idxsAt (hdr : Header) (timeLen : Nat) (tbuf : Bytes) : List Nat :=
  ((tbuf.drop (timeLen * hdr.timecnt)).take hdr.timecnt).map (·.toNat)
def typesAt (hdr : Header) (timeLen : Nat) (tbuf : Bytes) : Bytes :=
  (tbuf.drop (timeLen * hdr.timecnt)).drop hdr.timecnt
def transAt (hdr : Header) (timeLen : Nat) (tbuf : Bytes) : Array Transition :=
  (List.zipWith (fun t i => ({ unixTime := t, typeIndex := i } : Transition))
    (timesAt hdr timeLen tbuf) (idxsAt hdr timeLen tbuf)).toArray
def abbrsAt (hdr : Header) (timeLen : Nat) (tbuf : Bytes) : Bytes :=
  ((typesAt hdr timeLen tbuf).drop (6 * hdr.typecnt)).take hdr.charcnt

/-- the tail of `Load` once the footer has been looked at -/
def loadFooter (trans : Array Transition) (types : Array TransitionType) (abbrs : Bytes)
    (footer : Option Bytes) (defaultType : Nat) : Ck LoadResult :=
  match footer with
  | none => pure .fail
  | some spec => loadFinish trans types defaultType abbrs spec

/-- the transition, type and abbreviation tables and the footer -/
def loadTables (hdr : Header) (timeLen : Nat) (rest : Bytes) (version : UInt8) (tbuf : Bytes) :
    Ck LoadResult := do
  if !strictlyIncreasing (timesAt hdr timeLen tbuf) then return .fail
  if (idxsAt hdr timeLen tbuf).any (· ≥ hdr.typecnt) then return .fail
  match decodeTypes (typesAt hdr timeLen tbuf) hdr.charcnt hdr.typecnt with
  | none => return .fail
  | some types =>
  let defaultType ← defaultTypeCk types.toArray hdr (idxsAt hdr timeLen tbuf)
  loadFooter (transAt hdr timeLen tbuf) types.toArray (abbrsAt hdr timeLen tbuf) (footerOf version rest)
    defaultType

/-- what `Load` requires of the counts of the header it uses -/
def CountsOk (hdr : Header) : Prop :=
  hdr.typecnt ≠ 0 ∧ hdr.leapcnt = 0 ∧ (hdr.ttisstdcnt = 0 ∨ hdr.ttisstdcnt = hdr.typecnt) ∧
  (hdr.ttisutcnt = 0 ∨ hdr.ttisutcnt = hdr.typecnt)

/-- the checks on the counts and the data block -/
def loadBody (cfg : LoadCfg) (hdr : Header) (timeLen : Nat) (rest : Bytes) (version : UInt8) :
    Ck LoadResult := do
  if hdr.typecnt = 0 then return .fail
  if hdr.leapcnt ≠ 0 then return .fail
  if hdr.ttisstdcnt ≠ 0 ∧ hdr.ttisstdcnt ≠ hdr.typecnt then return .fail
  if hdr.ttisutcnt ≠ 0 ∧ hdr.ttisutcnt ≠ hdr.typecnt then return .fail
  let len := hdr.dataLength timeLen
  if len > cfg.maxDataLen then return .tooLarge
  let tbuf := rest.take len
  if tbuf.length ≠ len then return .fail
  let rest := rest.drop len
  loadTables hdr timeLen rest version tbuf

/-- the second header of a file whose first header has a non-zero version byte -/
def secondHeader (cfg : LoadCfg) (hdr1 : Header) (rest : Bytes) : Option (Header × Nat × Bytes × UInt8) :=
  let skip := hdr1.dataLength 4
  if skip > rest.length ∧ !cfg.skipPastEndOk then none
  else
    let rest := rest.drop skip
    let h2 := rest.take 44
    if h2.length ≠ 44 then none
    else if h2.take 4 ≠ magic then none
    else if h2.getD 4 0 = 0 then none
    else match Header.build h2 with
      | none => none
      | some hdr2 => some (hdr2, 8, rest.drop 44, h2.getD 4 0)

/-- the two headers -/
def loadStaged (cfg : LoadCfg) (src : Bytes) : Ck LoadResult := do
  let h1 := src.take 44
  if h1.length ≠ 44 then return .fail
  if h1.take 4 ≠ magic then return .fail
  match Header.build h1 with
  | none => return .fail
  | some hdr1 =>
  let rest := src.drop 44
  let v1 := h1.getD 4 0
  match (if v1 ≠ 0 then secondHeader cfg hdr1 rest else some (hdr1, 4, rest, v1)) with
  | none => return .fail
  | some (hdr, timeLen, rest, version) => loadBody cfg hdr timeLen rest version

theorem load_eq (cfg : LoadCfg) (src : Bytes) : load cfg src = loadStaged cfg src := rfl

theorem loadTables_elim {P : Ck LoadResult → Prop} (hdr : Header) (timeLen : Nat) (rest : Bytes)
    (version : UInt8) (tbuf : Bytes) (hf : P (pure .fail))
    (ht : ∀ types, strictlyIncreasing (timesAt hdr timeLen tbuf) = true →
      (∀ i ∈ idxsAt hdr timeLen tbuf, i < hdr.typecnt) →
      decodeTypes (typesAt hdr timeLen tbuf) hdr.charcnt hdr.typecnt = some types →
      P (defaultTypeCk types.toArray hdr (idxsAt hdr timeLen tbuf) >>=
        loadFooter (transAt hdr timeLen tbuf) types.toArray (abbrsAt hdr timeLen tbuf)
          (footerOf version rest))) :
    P (loadTables hdr timeLen rest version tbuf) := by
  unfold loadTables
  by_cases c1 : (!strictlyIncreasing (timesAt hdr timeLen tbuf)) = true
  · rw [if_pos c1]; exact hf
  rw [if_neg c1]
  by_cases c2 : ((idxsAt hdr timeLen tbuf).any fun x => decide (x ≥ hdr.typecnt)) = true
  · rw [if_pos c2]; exact hf
  rw [if_neg c2]
  cases hd : decodeTypes (typesAt hdr timeLen tbuf) hdr.charcnt hdr.typecnt with
  | none => exact hf
  | some types =>
    refine ht types (by simpa using c1) ?_ hd
    intro i hi
    have := fun h => c2 (List.any_eq_true.2 ⟨i, hi, h⟩)
    simpa using this

theorem loadBody_of (cfg : LoadCfg) (hdr : Header) (timeLen : Nat) (blk rest : Bytes) (version : UInt8)
    (hc : CountsOk hdr) (hm : hdr.dataLength timeLen ≤ cfg.maxDataLen)
    (hl : blk.length = hdr.dataLength timeLen) :
    loadBody cfg hdr timeLen (blk ++ rest) version = loadTables hdr timeLen rest version blk := by
  obtain ⟨c1, c2, c3, c4⟩ := hc
  unfold loadBody
  dsimp only
  rw [if_neg c1, if_neg (fun h => h c2), if_neg (by omega), if_neg (by omega), if_neg (by omega),
    List.take_left' hl, List.drop_left' hl, if_neg (fun h => h hl)]

theorem loadBody_elim {P : Ck LoadResult → Prop} (cfg : LoadCfg) (hdr : Header) (timeLen : Nat)
    (rest : Bytes) (version : UInt8) (hf : P (pure .fail)) (hl : P (pure .tooLarge))
    (ht : ∀ blk rest', rest = blk ++ rest' → CountsOk hdr → hdr.dataLength timeLen ≤ cfg.maxDataLen →
      blk.length = hdr.dataLength timeLen → P (loadTables hdr timeLen rest' version blk)) :
    P (loadBody cfg hdr timeLen rest version) := by
  unfold loadBody
  dsimp only
  by_cases c1 : hdr.typecnt = 0
  · rw [if_pos c1]; exact hf
  rw [if_neg c1]
  by_cases c2 : hdr.leapcnt ≠ 0
  · rw [if_pos c2]; exact hf
  rw [if_neg c2]
  by_cases c3 : hdr.ttisstdcnt ≠ 0 ∧ hdr.ttisstdcnt ≠ hdr.typecnt
  · rw [if_pos c3]; exact hf
  rw [if_neg c3]
  by_cases c4 : hdr.ttisutcnt ≠ 0 ∧ hdr.ttisutcnt ≠ hdr.typecnt
  · rw [if_pos c4]; exact hf
  rw [if_neg c4]
  by_cases c5 : hdr.dataLength timeLen > cfg.maxDataLen
  · rw [if_pos c5]; exact hl
  rw [if_neg c5]
  by_cases c6 : (rest.take (hdr.dataLength timeLen)).length ≠ hdr.dataLength timeLen
  · rw [if_pos c6]; exact hf
  rw [if_neg c6]
  exact ht _ _ (List.take_append_drop _ _).symm ⟨c1, by omega, by omega, by omega⟩ (by omega)
    (Classical.not_not.1 c6)

/-- `h` is a header as `Load` accepts it, with version byte `v` and counts `hdr` -/
def HeaderAt (h : Bytes) (hdr : Header) (v : UInt8) : Prop :=
  h.length = 44 ∧ h.take 4 = magic ∧ h.getD 4 0 = v ∧ Header.build h = some hdr

/-- which block of `src` is used, and what follows it: the block after the only header of a file
with version byte 0, else the block after the second header (the first block is skipped) -/
def Heads (src : Bytes) (hdr : Header) (timeLen : Nat) (rest : Bytes) (v : UInt8) : Prop :=
  (∃ h1, src = h1 ++ rest ∧ HeaderAt h1 hdr 0 ∧ timeLen = 4 ∧ v = 0) ∨
  (∃ h1 hdr1 v1 blk1 h2, src = h1 ++ (blk1 ++ (h2 ++ rest)) ∧ HeaderAt h1 hdr1 v1 ∧ v1 ≠ 0 ∧
    blk1.length = hdr1.dataLength 4 ∧ HeaderAt h2 hdr v ∧ v ≠ 0 ∧ timeLen = 8)

theorem secondHeader_of (cfg : LoadCfg) (hdr1 hdr : Header) (blk1 h2 rest : Bytes) (v : UInt8)
    (hl : blk1.length = hdr1.dataLength 4) (hh : HeaderAt h2 hdr v) (hv : v ≠ 0) :
    secondHeader cfg hdr1 (blk1 ++ (h2 ++ rest)) = some (hdr, 8, rest, v) := by
  obtain ⟨d1, d2, d3, d4⟩ := hh
  unfold secondHeader
  dsimp only
  have hnot : ¬ (hdr1.dataLength 4 > (blk1 ++ (h2 ++ rest)).length ∧ (!cfg.skipPastEndOk) = true) := by
    rw [List.length_append]; omega
  rw [if_neg hnot, List.drop_left' hl, List.take_left' d1, List.drop_left' d1, if_neg (fun h => h d1),
    if_neg (fun h => h d2), d3, if_neg hv, d4]

theorem secondHeader_some (cfg : LoadCfg) (hdr1 hdr : Header) (rest rest' : Bytes) (timeLen : Nat)
    (v : UInt8) (h : secondHeader cfg hdr1 rest = some (hdr, timeLen, rest', v)) :
    ∃ blk1 h2, rest = blk1 ++ (h2 ++ rest') ∧ blk1.length = hdr1.dataLength 4 ∧ HeaderAt h2 hdr v ∧
      v ≠ 0 ∧ timeLen = 8 := by
  unfold secondHeader at h
  dsimp only at h
  by_cases c0 : hdr1.dataLength 4 > rest.length ∧ (!cfg.skipPastEndOk) = true
  · rw [if_pos c0] at h; cases h
  rw [if_neg c0] at h
  by_cases c1 : ((rest.drop (hdr1.dataLength 4)).take 44).length ≠ 44
  · rw [if_pos c1] at h; cases h
  rw [if_neg c1] at h
  by_cases c2 : ((rest.drop (hdr1.dataLength 4)).take 44).take 4 ≠ magic
  · rw [if_pos c2] at h; cases h
  rw [if_neg c2] at h
  by_cases c3 : ((rest.drop (hdr1.dataLength 4)).take 44).getD 4 0 = 0
  · rw [if_pos c3] at h; cases h
  rw [if_neg c3] at h
  cases hb : Header.build ((rest.drop (hdr1.dataLength 4)).take 44) with
  | none => rw [hb] at h; cases h
  | some hdr2 =>
    rw [hb] at h
    cases h
    refine ⟨rest.take (hdr1.dataLength 4), _, ?_, ?_, ⟨Classical.not_not.1 c1, Classical.not_not.1 c2, rfl, hb⟩,
      c3, rfl⟩
    · rw [List.take_append_drop, List.take_append_drop]
    · have := Classical.not_not.1 c1
      rw [List.length_take, List.length_drop] at this
      rw [List.length_take]; omega

theorem load_of_heads (cfg : LoadCfg) {src : Bytes} {hdr : Header} {timeLen : Nat} {rest : Bytes}
    {v : UInt8} (h : Heads src hdr timeLen rest v) :
    load cfg src = loadBody cfg hdr timeLen rest v := by
  rw [load_eq]
  unfold loadStaged
  dsimp only
  rcases h with ⟨h1, rfl, ⟨c1, c2, c3, c4⟩, rfl, rfl⟩ |
    ⟨h1, hdr1, v1, blk1, h2, rfl, ⟨c1, c2, c3, c4⟩, hv1, hl, hh, hv, rfl⟩
  · rw [List.take_left' c1, List.drop_left' c1, if_neg (fun h => h c1), if_neg (fun h => h c2), c4]
    dsimp only
    rw [c3, if_neg (fun h => h rfl)]
  · rw [List.take_left' c1, List.drop_left' c1, if_neg (fun h => h c1), if_neg (fun h => h c2), c4]
    dsimp only
    rw [c3, if_pos hv1, secondHeader_of cfg hdr1 hdr blk1 h2 rest v hl hh hv]

theorem load_elim {P : Ck LoadResult → Prop} (cfg : LoadCfg) (src : Bytes) (hf : P (pure .fail))
    (hb : ∀ hdr timeLen rest v, Heads src hdr timeLen rest v → P (loadBody cfg hdr timeLen rest v)) :
    P (load cfg src) := by
  rw [load_eq]
  unfold loadStaged
  dsimp only
  by_cases c1 : (src.take 44).length ≠ 44
  · rw [if_pos c1]; exact hf
  rw [if_neg c1]
  by_cases c2 : (src.take 44).take 4 ≠ magic
  · rw [if_pos c2]; exact hf
  rw [if_neg c2]
  cases hb1 : Header.build (src.take 44) with
  | none => exact hf
  | some hdr1 =>
    dsimp only
    have hH : HeaderAt (src.take 44) hdr1 ((src.take 44).getD 4 0) :=
      ⟨Classical.not_not.1 c1, Classical.not_not.1 c2, rfl, hb1⟩
    have hs : src = src.take 44 ++ src.drop 44 := (List.take_append_drop 44 src).symm
    by_cases hv : (src.take 44).getD 4 0 ≠ 0
    · rw [if_pos hv]
      cases hs2 : secondHeader cfg hdr1 (src.drop 44) with
      | none => exact hf
      | some r =>
        obtain ⟨hdr, timeLen, rest, v⟩ := r
        obtain ⟨blk1, h2, e, hl, hh, hv2, rfl⟩ := secondHeader_some cfg hdr1 hdr _ rest timeLen v hs2
        exact hb _ _ _ _ (Or.inr ⟨_, hdr1, _, blk1, h2, by rw [← e]; exact hs, hH, hv, hl, hh, hv2, rfl⟩)
    · rw [if_neg hv]
      have hv0 := Classical.not_not.1 hv
      rw [hv0] at hH ⊢
      exact hb _ _ _ _ (Or.inl ⟨_, hs, hH, rfl, rfl⟩)

end Cctz.Ld
