/-
  C01Decode helper proofs: the before-first-transition search of `Load`
  (`defaultTypeSearch`: a downward and an upward loop) computes the declarative `specDefaultType`.
-/
import Cctz.Proofs.DecodeLemmas
import Cctz.Proofs.LdLoad

namespace Cctz.Dc
open Cctz Cctz.Tz Cctz.Spec

theorem up_val (n : Nat) (isDst : Nat → Bool) (fuel : Nat) : ∀ i, i ≤ n → n - i < fuel →
    (defaultTypeSearch.up n isDst i fuel).val =
      ((List.range' i (n - i)).find? fun j => !isDst j).getD n := by
  induction fuel with
  | zero => intro i _ h; omega
  | succ fuel ih =>
    intro i hi hf
    unfold defaultTypeSearch.up
    split
    · rename_i hc
      have e : n - i = (n - (i + 1)) + 1 := by omega
      rw [ih (i + 1) (by omega) (by omega), e, List.range'_succ, List.find?_cons, hc.2]
      rfl
    · rename_i hc
      by_cases hin : i = n
      · subst hin
        rw [Nat.sub_self]
        rfl
      · have hd : isDst i = false := by
          cases h : isDst i with
          | false => rfl
          | true => exact absurd ⟨hin, h⟩ hc
        have e : n - i = (n - (i + 1)) + 1 := by omega
        rw [e, List.range'_succ, List.find?_cons, hd]
        rfl

theorem down_val (isDst : Nat → Bool) : ∀ i fuel, i ≤ fuel →
    defaultTypeSearch.down isDst i fuel =
      ((List.range (i + 1)).reverse.find? fun j => !isDst j).getD 0 := by
  intro i
  induction i with
  | zero =>
    intro fuel _
    have e : (List.range (0 + 1)).reverse = [0] := rfl
    rw [e, List.find?_cons]
    cases fuel with
    | zero => cases isDst 0 <;> rfl
    | succ f =>
      unfold defaultTypeSearch.down
      rw [if_neg (fun h => h.1 rfl)]
      cases isDst 0 <;> rfl
  | succ i ih =>
    intro fuel hf
    cases fuel with
    | zero => omega
    | succ f =>
      unfold defaultTypeSearch.down
      rw [List.range_succ, List.reverse_append, List.reverse_singleton, List.singleton_append,
        List.find?_cons]
      cases hd : isDst (i + 1) with
      | true =>
        rw [if_pos ⟨by omega, rfl⟩, Nat.add_sub_cancel, ih f (by omega)]
        rfl
      | false =>
        rw [if_neg (fun h => by cases h.2)]
        rfl

theorem find_range'_lt (p : Nat → Bool) (s k r : Nat)
    (h : (List.range' s k).find? p = some r) : r < s + k := by
  have := List.mem_of_find?_eq_some h
  rw [List.mem_range'_1] at this
  exact this.2

/-- the two loops with the fuel left a variable (`fuelD ≥ first`, `fuelU > n` is all that matters) -/
theorem search_core (n first : Nat) (isDst : Nat → Bool) (fuelD fuelU : Nat) (h1 : first ≤ n)
    (hD : first ≤ fuelD) (hU : n < fuelU) (i0 : Nat)
    (hi0 : i0 = if isDst 0 then ((List.range (first + 1)).reverse.find? fun j => !isDst j).getD 0 else 0) :
    (if isDst 0 = true then defaultTypeSearch.up n isDst (defaultTypeSearch.down isDst first fuelD) fuelU
      else defaultTypeSearch.up n isDst 0 fuelU).val =
      ((List.range' i0 (n - i0)).find? fun j => !isDst j).getD n := by
  by_cases hd : isDst 0 = true
  · rw [if_pos hd] at hi0
    rw [if_pos hd, down_val isDst first fuelD hD, ← hi0]
    have : i0 ≤ n := by
      rw [hi0, ← down_val isDst first fuelD hD]
      exact Nat.le_trans (Ld.down_le _ _ _) h1
    exact up_val n isDst fuelU i0 this (by omega)
  · rw [if_neg hd] at hi0
    rw [if_neg hd, hi0]
    exact up_val n isDst fuelU 0 (Nat.zero_le _) (by omega)

/-- the value `Load` assigns to `default_transition_type_` when a transition uses type 0 -/
theorem defaultTypeSearch_val (types : Array TransitionType) (tc first : Nat) (isDst : Nat → Bool)
    (hfun : (fun i => (types[i]?.map (·.isDst)).getD false) = isDst) (h1 : first ≤ min tc 256)
    (i0 : Nat)
    (hi0 : i0 = if isDst 0 then ((List.range (first + 1)).reverse.find? fun j => !isDst j).getD 0 else 0) :
    (defaultTypeSearch types tc first).val =
      (((List.range' i0 (min tc 256 - i0)).find? fun j => !isDst j).getD (min tc 256), min tc 256) := by
  subst hfun
  unfold defaultTypeSearch
  dsimp only
  -- with the literal fuel in place the unifier would run the loop; `search_core` has it as a variable
  generalize hF : (1024 : Nat) = fuelU
  have hD : first ≤ 256 := by omega
  have hU : min tc 256 < fuelU := by omega
  rw [show ∀ (x : Ck Nat) (f : Nat → Ck (Nat × Nat)), (x.bind' f).val = (f x.val).val from fun _ _ => rfl,
    Ck.pure_val,
    search_core (min tc 256) first (fun i => (types[i]?.map (·.isDst)).getD false) 256 fuelU h1 hD hU i0 hi0]

/-- the record of the specification for a decoded type -/
def projT (t : TransitionType) : Int × Bool × Nat := (t.utcOffset, t.isDst, t.abbrIndex)

theorem isDst_eq (d : TzData) (types : Array TransitionType) (h : d.types = types.toList.map projT)
    (i : Nat) : d.isDst i = (types[i]?.map (·.isDst)).getD false := by
  unfold TzData.isDst
  rw [h, List.getElem?_map, Array.getElem?_toList]
  cases types[i]? <;> rfl

/-- the whole default-type computation of `Load` -/
theorem default_val (d : TzData) (types : Array TransitionType) (hdr : Header)
    (ht : d.types = types.toList.map projT) (hsz : types.size = hdr.typecnt)
    (hlen : d.idxs.length = hdr.timecnt) (hidx : ∀ i ∈ d.idxs, i < hdr.typecnt ∧ i < 256) :
    (Ld.defaultTypeCk types hdr d.idxs).val = specDefaultType d := by
  unfold Ld.defaultTypeCk
  generalize hdr.typecnt = tc at hsz hidx
  generalize hdr.timecnt = timecnt at hlen
  unfold specDefaultType
  by_cases hany : d.idxs.any (· = 0) = true
  · have hne : timecnt ≠ 0 := by
      intro h0
      rw [h0, List.length_eq_zero_iff] at hlen
      rw [hlen] at hany
      cases hany
    have hall : ¬ (d.idxs.all (· ≠ 0) = true) := by
      intro hall
      obtain ⟨x, hx, hx0⟩ := List.any_eq_true.1 hany
      have := List.all_eq_true.1 hall x hx
      simp at this hx0
      exact this hx0
    rw [if_pos ⟨hany, hne⟩, if_neg hall]
    have hfirst : d.idxs.headD 0 ≤ min tc 256 := by
      cases hi : d.idxs with
      | nil => simp
      | cons a as =>
        have := hidx a (by rw [hi]; exact List.mem_cons_self)
        simp only [List.headD_cons]
        omega
    have hfun : (fun i => (types[i]?.map (·.isDst)).getD false) = d.isDst := by
      funext i; exact (isDst_eq d types ht i).symm
    have hv := defaultTypeSearch_val types tc (d.idxs.headD 0) d.isDst hfun hfirst _ rfl
    have hlt : d.types.length = tc := by rw [ht, List.length_map, Array.length_toList, hsz]
    rw [Ck.bind_val, hv, hlt]
    dsimp only
    generalize (if d.isDst 0 = true then
      ((List.range (d.idxs.headD 0 + 1)).reverse.find? fun j => !d.isDst j).getD 0 else 0) = i0
    cases hf : (List.range' i0 (min tc 256 - i0)).find? (fun j => !d.isDst j) with
    | none => simp
    | some r =>
      have hr := find_range'_lt _ _ _ _ hf
      by_cases hi : i0 ≤ min tc 256
      · have : r ≠ min tc 256 := by omega
        simp [this]
      · have e : min tc 256 - i0 = 0 := by omega
        rw [e] at hf
        cases hf
  · have hall : d.idxs.all (· ≠ 0) = true := by
      rw [List.all_eq_true]
      intro x hx
      have : ¬ (x = 0) := fun h0 => hany (List.any_eq_true.2 ⟨x, hx, by simp [h0]⟩)
      simpa using this
    rw [if_neg (fun h => hany h.1), if_pos hall]
    rfl

end Cctz.Dc
