/-
  Counting the terms of a non-decreasing sequence that are at or below a bound: the count is the
  place where the sequence passes the bound.  `Spec.segIndex` and `Spec.monthOfYearDay` are such
  counts.
-/

namespace Cctz

theorem cut_of_mono {f : Nat → Int} {d : Int} : ∀ {n : Nat}, (∀ i j, i ≤ j → j < n → f i ≤ f j) →
    (∀ k, k < ((List.range n).filter fun k => decide (f k ≤ d)).length → f k ≤ d) ∧
    (∀ k, ((List.range n).filter fun k => decide (f k ≤ d)).length ≤ k → k < n → d < f k) := by
  intro n
  induction n with
  | zero =>
    intro _
    exact ⟨fun k hk => absurd hk (Nat.not_lt_zero k), fun k _ hk => absurd hk (Nat.not_lt_zero k)⟩
  | succ n ih =>
    intro hf
    obtain ⟨h1, h2⟩ := ih fun i j hij hj => hf i j hij (by omega)
    have hc := List.length_filter_le (fun k => decide (f k ≤ d)) (List.range n)
    rw [List.length_range] at hc
    rw [List.range_succ, List.filter_append, List.length_append, List.filter_cons, List.filter_nil]
    by_cases hn : f n ≤ d
    · -- then `f k ≤ d` for all `k < n` as well, so all of them were counted
      have hcn : ((List.range n).filter fun k => decide (f k ≤ d)).length = n := by
        apply Nat.le_antisymm hc
        apply Nat.le_of_not_lt
        intro hlt
        have := h2 _ (Nat.le_refl _) hlt
        have := hf _ n (Nat.le_of_lt hlt) (by omega)
        omega
      simp only [hn, decide_true, ↓reduceIte, List.length_singleton, hcn]
      exact ⟨fun k hk => Int.le_trans (hf k n (by omega) (by omega)) hn, fun k h h' => by omega⟩
    · simp only [hn, decide_false, Bool.false_eq_true, ↓reduceIte, List.length_nil, Nat.add_zero]
      refine ⟨h1, fun k hk hk' => ?_⟩
      by_cases hkn : k = n
      · subst hkn; omega
      · exact h2 k hk (by omega)

theorem count_le_iff {f : Nat → Int} {n : Nat} (hf : ∀ i j, i ≤ j → j < n → f i ≤ f j)
    (d : Int) (m : Nat) :
    ((List.range n).filter fun k => decide (f k ≤ d)).length = m ↔
      m ≤ n ∧ (0 < m → f (m - 1) ≤ d) ∧ (m < n → d < f m) := by
  obtain ⟨h1, h2⟩ := cut_of_mono (d := d) hf
  have hc := List.length_filter_le (fun k => decide (f k ≤ d)) (List.range n)
  rw [List.length_range] at hc
  generalize ((List.range n).filter fun k => decide (f k ≤ d)).length = c at *
  constructor
  · intro h; subst h
    exact ⟨hc, fun h => h1 _ (by omega), fun h => h2 _ (Nat.le_refl _) h⟩
  · intro ⟨hm, ha, hb⟩
    -- a count above `m` puts `f m` at or below `d`, one below `m` puts `f (m - 1)` above it
    apply Nat.le_antisymm
    · apply Nat.le_of_not_lt; intro hlt
      have := h1 m hlt
      have := hb (by omega)
      omega
    · apply Nat.le_of_not_lt; intro hlt
      have := h2 (m - 1) (by omega) (by omega)
      have := ha (by omega)
      omega

end Cctz
