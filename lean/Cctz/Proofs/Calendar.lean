/-
  Facts about the calendar specification `Cctz.Spec` and its relation to the `impl::` helpers
  of the civil-time model.
-/
import Cctz.Model.Civil
import Cctz.Spec.Gregorian
import Cctz.Proofs.IntLemmas

namespace Cctz
open Cctz.Spec

theorem isLeap_iff (y : Int) : isLeap y = true ↔ (y % 4 = 0 ∧ (y % 100 ≠ 0 ∨ y % 400 = 0)) := by
  simp [isLeap]

theorem isLeapYear_eq (y : Int) : Civil.isLeapYear y = isLeap y := by
  rw [Bool.eq_iff_iff, isLeap_iff]
  simp only [Civil.isLeapYear, Bool.and_eq_true, Bool.or_eq_true, beq_iff_eq, bne_iff_ne, ne_eq,
    cmod_eq_zero_iff _ 4 (by decide), cmod_eq_zero_iff _ 100 (by decide),
    cmod_eq_zero_iff _ 400 (by decide)]

theorem isLeap_add_400_mul (y q : Int) : isLeap (y + 400 * q) = isLeap y := by
  rw [Bool.eq_iff_iff, isLeap_iff, isLeap_iff]; omega

theorem leaps_step (y : Int) :
    leapsThrough y - leapsThrough (y - 1) = if isLeap y then 1 else 0 := by
  simp only [leapsThrough, isLeap_iff]; split <;> omega

theorem daysInMonth_pos (y m : Int) : 28 ≤ daysInMonth y m ∧ daysInMonth y m ≤ 31 := by
  unfold daysInMonth; repeat' split
  all_goals omega

theorem daysInYear_cases (y : Int) : daysInYear y = 365 ∨ daysInYear y = 366 := by
  unfold daysInYear; split <;> simp

theorem dayNum_epoch : dayNum 1970 1 1 = 0 := by decide

theorem dayNum_linear (y m d k : Int) : dayNum y m (d + k) = dayNum y m d + k := by
  simp only [dayNum]; omega

theorem dayNum_eq_first (y m d : Int) : dayNum y m d = dayNum y m 1 + (d - 1) := by
  rw [← dayNum_linear, show 1 + (d - 1) = d by omega]

/-- `dayNum` with the leap day folded into the "leap index" `y + [m > 2]` -/
theorem dayNum_alt (y m d : Int) :
    dayNum y m d =
      365 * (y - 1970) + leapsThrough (y + b2i (decide (m > 2)) - 1) - 477 + cumDays m + (d - 1) := by
  have h := leaps_step y
  have h2 : leapsThrough 1969 = 477 := by decide
  simp only [dayNum, daysBeforeMonth, daysBeforeYear, b2i, decide_eq_true_eq, h2]
  by_cases hm : m > 2
  · simp only [hm, true_and, if_true]
    rw [show y + 1 - 1 = y by omega]
    split <;> simp_all <;> omega
  · simp only [hm, false_and, if_false, Int.add_zero]; omega

theorem daysBeforeYear_add_400_mul (y q : Int) :
    daysBeforeYear (y + 400 * q) = daysBeforeYear y + 146097 * q := by
  simp only [daysBeforeYear, leapsThrough]; omega

theorem dayNum_add_400_mul (y q m d : Int) :
    dayNum (y + 400 * q) m d = dayNum y m d + 146097 * q := by
  simp only [dayNum, daysBeforeMonth, daysBeforeYear_add_400_mul, isLeap_add_400_mul]; omega

theorem dayNum_add_400 (y m d : Int) : dayNum (y + 400) m d = dayNum y m d + 146097 := by
  have := dayNum_add_400_mul y 1 m d; simpa using this

/-! ## the chunk sizes of `n_day` -/

theorem yearIndex_val (y m : Int) :
    (Civil.yearIndex y m).val = (y + b2i (decide (m > 2))) % 400 := by
  simp only [Civil.yearIndex, Ck.bind_val, chk64_val, Ck.pure_val, cmod_eq _ 400]
  omega

theorem daysPerYear_val (y m : Int) :
    (Civil.daysPerYear y m).val = daysInYear (y + b2i (decide (m > 2))) := by
  simp only [Civil.daysPerYear, Ck.bind_val, chk64_val, Ck.pure_val, isLeapYear_eq, daysInYear]
  rfl

theorem leaps_century (s : Int) :
    leapsThrough (s + 99) - leapsThrough (s - 1) =
      24 + b2i (s % 400 == 0 || decide (s % 400 > 300)) := by
  simp only [leapsThrough, b2i, Bool.or_eq_true, beq_iff_eq, decide_eq_true_eq]
  split <;> omega

theorem leaps_4years (s : Int) :
    leapsThrough (s + 3) - leapsThrough (s - 1) =
      b2i (s % 400 == 0 || decide (s % 400 > 300) || decide (cmod (s % 400 - 1) 100 < 96)) := by
  simp only [leapsThrough, b2i, Bool.or_eq_true, beq_iff_eq, decide_eq_true_eq,
    cmod_eq _ 100]
  split <;> omega

theorem dayNum_add_years (e k m d : Int) :
    dayNum (e + k) m d = dayNum e m d + 365 * k +
      (leapsThrough (e + b2i (decide (m > 2)) + (k - 1)) - leapsThrough (e + b2i (decide (m > 2)) - 1)) := by
  rw [dayNum_alt, dayNum_alt,
    show e + k + b2i (decide (m > 2)) - 1 = e + b2i (decide (m > 2)) + (k - 1) by omega]
  omega

theorem dayNum_add_century (e m d : Int) :
    dayNum (e + 100) m d =
      dayNum e m d + Civil.daysPerCentury ((e + b2i (decide (m > 2))) % 400) := by
  have := leaps_century (e + b2i (decide (m > 2)))
  rw [dayNum_add_years, Civil.daysPerCentury, show (100 : Int) - 1 = 99 from rfl]; omega

theorem dayNum_add_4years (e m d : Int) :
    dayNum (e + 4) m d =
      dayNum e m d + Civil.daysPer4Years ((e + b2i (decide (m > 2))) % 400) := by
  have := leaps_4years (e + b2i (decide (m > 2)))
  rw [dayNum_add_years, Civil.daysPer4Years, show (4 : Int) - 1 = 3 from rfl]; omega

theorem dayNum_add_year (e m d : Int) :
    dayNum (e + 1) m d = dayNum e m d + (Civil.daysPerYear e m).val := by
  have := leaps_step (e + b2i (decide (m > 2)))
  rw [dayNum_add_years, daysPerYear_val, daysInYear, show (1 : Int) - 1 = 0 from rfl, Int.add_zero]
  split <;> simp_all <;> omega

/-! ## months

`cumDays` and `daysInMonth` in closed form: the two lemmas are where the month table is read,
everything else about months is then linear arithmetic. -/

theorem month_cases {m : Int} (h1 : 1 ≤ m) (h2 : m ≤ 12) :
    m = 1 ∨ m = 2 ∨ m = 3 ∨ m = 4 ∨ m = 5 ∨ m = 6 ∨ m = 7 ∨ m = 8 ∨ m = 9 ∨ m = 10 ∨ m = 11 ∨
      m = 12 := by omega

theorem cumDays_eq (m : Int) (h1 : 1 ≤ m) (h2 : m ≤ 12) :
    cumDays m = (367 * m - 362) / 12 - (if m > 2 then 2 else 0) := by
  rcases month_cases h1 h2 with h | h | h | h | h | h | h | h | h | h | h | h <;> subst h <;> decide

theorem daysInMonth_eq (y m : Int) (h1 : 1 ≤ m) (h2 : m ≤ 12) :
    daysInMonth y m = (367 * m + 5) / 12 - (367 * m - 362) / 12 -
      (if m = 2 then (if isLeap y then 1 else 2) else 0) := by
  unfold daysInMonth
  generalize isLeap y = b
  rcases month_cases h1 h2 with h | h | h | h | h | h | h | h | h | h | h | h <;> subst h <;> cases b <;> decide

theorem daysBeforeMonth_eq (y m : Int) (h1 : 1 ≤ m) (h2 : m ≤ 12) :
    daysBeforeMonth y m =
      (367 * m - 362) / 12 - (if m > 2 then (if isLeap y then 1 else 2) else 0) := by
  rw [daysBeforeMonth, cumDays_eq m h1 h2]
  cases isLeap y <;> simp <;> omega

theorem daysPerMonth_val (y m : Int) (h1 : 1 ≤ m) (h2 : m ≤ 12) :
    (Civil.daysPerMonth y m).val = daysInMonth y m := by
  simp only [Civil.daysPerMonth, Ck.bind_val, Ck.pure_val, isLeapYear_eq, daysInMonth]
  generalize isLeap y = b
  rcases month_cases h1 h2 with h | h | h | h | h | h | h | h | h | h | h | h <;> subst h <;> cases b <;> decide

theorem daysBeforeMonth_succ (y m : Int) (h1 : 1 ≤ m) (h2 : m < 12) :
    daysBeforeMonth y (m + 1) = daysBeforeMonth y m + daysInMonth y m := by
  rw [daysBeforeMonth_eq y m h1 (by omega), daysBeforeMonth_eq y (m + 1) (by omega) (by omega),
    daysInMonth_eq y m h1 (by omega)]
  cases isLeap y <;> simp <;> omega

theorem daysBeforeMonth_dec (y : Int) : daysBeforeMonth y 12 + daysInMonth y 12 = daysInYear y := by
  simp only [daysBeforeMonth, daysInMonth, daysInYear]
  cases isLeap y <;> decide

theorem dayNum_add_month (y m d : Int) (h1 : 1 ≤ m) (h2 : m < 12) :
    dayNum y (m + 1) d = dayNum y m d + daysInMonth y m := by
  simp only [dayNum, daysBeforeMonth_succ y m h1 h2]; omega

theorem daysBeforeYear_succ (y : Int) : daysBeforeYear (y + 1) = daysBeforeYear y + daysInYear y := by
  have := leaps_step y
  simp only [daysBeforeYear, daysInYear, show y + 1 - 1 = y by omega]
  split <;> simp_all <;> omega

theorem dayNum_jan1 (y : Int) : dayNum y 1 1 = daysBeforeYear y := by
  simp [dayNum, daysBeforeMonth, cumDays]

theorem dayNum_add_month_dec (y d : Int) :
    dayNum (y + 1) 1 d = dayNum y 12 d + daysInMonth y 12 := by
  have := daysBeforeMonth_dec y
  have h1 : daysBeforeMonth (y + 1) 1 = 0 := by simp [daysBeforeMonth, cumDays]
  simp only [dayNum, daysBeforeYear_succ, h1]; omega

def ValidDate (y m d : Int) : Prop := 1 ≤ m ∧ m ≤ 12 ∧ 1 ≤ d ∧ d ≤ daysInMonth y m

instance (y m d : Int) : Decidable (ValidDate y m d) := by unfold ValidDate; infer_instance

theorem valid_date {f : Fields} (h : Valid f) : ValidDate f.y f.m f.d :=
  ⟨h.1, h.2.1, h.2.2.1, h.2.2.2.1⟩

theorem leapsThrough_mono (a b : Int) (h : a ≤ b) : leapsThrough a ≤ leapsThrough b := by
  simp only [leapsThrough]; omega

theorem daysBeforeYear_lt (y1 y2 : Int) (h : y1 < y2) :
    daysBeforeYear y1 + daysInYear y1 ≤ daysBeforeYear y2 := by
  rw [← daysBeforeYear_succ]
  have := leapsThrough_mono (y1 + 1 - 1) (y2 - 1) (by omega)
  simp only [daysBeforeYear]; omega

theorem jan1_step (y y' : Int) (h : y < y') : dayNum y 1 1 + 365 ≤ dayNum y' 1 1 := by
  rw [dayNum_jan1, dayNum_jan1]
  have := daysBeforeYear_lt y y' h
  have := daysInYear_cases y
  omega

theorem jan1_mono (y y' : Int) (h : y ≤ y') : dayNum y 1 1 ≤ dayNum y' 1 1 := by
  by_cases e : y = y'
  · subst e; exact Int.le_refl _
  · have := jan1_step y y' (by omega); omega

theorem daysInMonth_add_400_mul (y q m : Int) : daysInMonth (y + 400 * q) m = daysInMonth y m := by
  simp only [daysInMonth, isLeap_add_400_mul]

theorem dayOfYear_range (y m d : Int) (h : ValidDate y m d) :
    0 ≤ daysBeforeMonth y m + (d - 1) ∧ daysBeforeMonth y m + (d - 1) < daysInYear y := by
  obtain ⟨h1, h2, h3, h4⟩ := h
  rw [daysInMonth_eq y m h1 h2] at h4
  rw [daysBeforeMonth_eq y m h1 h2, daysInYear]
  cases isLeap y <;> simp at h4 ⊢ <;> omega

theorem daysBeforeMonth_lt (y m1 m2 : Int) (h1 : 1 ≤ m1) (h : m1 < m2) (h2 : m2 ≤ 12) :
    daysBeforeMonth y m1 + daysInMonth y m1 ≤ daysBeforeMonth y m2 := by
  rw [daysBeforeMonth_eq y m1 h1 (by omega), daysBeforeMonth_eq y m2 (by omega) h2,
    daysInMonth_eq y m1 h1 (by omega)]
  cases isLeap y <;> simp <;> omega

/-- a strictly monotone map from a trichotomous order into `Int` reflects the order and is
injective; the three alternatives are given as propositions -/
theorem lt_iff_of_trichotomy {x y : Int} {L E G : Prop} (tri : L ∨ E ∨ G) (hl : L → x < y)
    (he : E → x = y) (hg : G → y < x) : (x < y ↔ L) ∧ (x = y → E) := by
  rcases tri with h | h | h
  · have := hl h; exact ⟨⟨fun _ => h, hl⟩, fun _ => by omega⟩
  · have := he h; exact ⟨⟨fun _ => by omega, hl⟩, fun _ => h⟩
  · have := hg h; exact ⟨⟨fun _ => by omega, hl⟩, fun _ => by omega⟩

def DateLex (y1 m1 d1 y2 m2 d2 : Int) : Prop :=
  y1 < y2 ∨ (y1 = y2 ∧ (m1 < m2 ∨ (m1 = m2 ∧ d1 < d2)))

theorem dayNum_lt_of_lex {y1 m1 d1 y2 m2 d2 : Int} (v1 : ValidDate y1 m1 d1)
    (v2 : ValidDate y2 m2 d2) (h : DateLex y1 m1 d1 y2 m2 d2) :
    dayNum y1 m1 d1 < dayNum y2 m2 d2 := by
  have r1 := dayOfYear_range _ _ _ v1
  have r2 := dayOfYear_range _ _ _ v2
  simp only [dayNum]
  rcases h with h | ⟨rfl, h | ⟨rfl, h⟩⟩
  · have := daysBeforeYear_lt y1 y2 h; omega
  · have := daysBeforeMonth_lt y1 m1 m2 v1.1 h v2.2.1
    have := v1.2.2.2; have := v2.2.2.1; omega
  · omega

theorem DateLex.trichotomy (y1 m1 d1 y2 m2 d2 : Int) :
    DateLex y1 m1 d1 y2 m2 d2 ∨ (y1 = y2 ∧ m1 = m2 ∧ d1 = d2) ∨ DateLex y2 m2 d2 y1 m1 d1 := by
  unfold DateLex; omega

theorem dayNum_lt_iff_inj {y1 m1 d1 y2 m2 d2 : Int} (v1 : ValidDate y1 m1 d1)
    (v2 : ValidDate y2 m2 d2) :
    (dayNum y1 m1 d1 < dayNum y2 m2 d2 ↔ DateLex y1 m1 d1 y2 m2 d2) ∧
      (dayNum y1 m1 d1 = dayNum y2 m2 d2 → y1 = y2 ∧ m1 = m2 ∧ d1 = d2) :=
  lt_iff_of_trichotomy (DateLex.trichotomy ..) (dayNum_lt_of_lex v1 v2)
    (fun ⟨h1, h2, h3⟩ => by rw [h1, h2, h3]) (dayNum_lt_of_lex v2 v1)

theorem dayNum_lt_iff_lex {y1 m1 d1 y2 m2 d2 : Int} (v1 : ValidDate y1 m1 d1)
    (v2 : ValidDate y2 m2 d2) :
    dayNum y1 m1 d1 < dayNum y2 m2 d2 ↔ DateLex y1 m1 d1 y2 m2 d2 :=
  (dayNum_lt_iff_inj v1 v2).1

theorem dayNum_inj {y1 m1 d1 y2 m2 d2 : Int} (v1 : ValidDate y1 m1 d1)
    (v2 : ValidDate y2 m2 d2) (h : dayNum y1 m1 d1 = dayNum y2 m2 d2) :
    y1 = y2 ∧ m1 = m2 ∧ d1 = d2 :=
  (dayNum_lt_iff_inj v1 v2).2 h

def todSec (f : Fields) : Int := f.hh * 3600 + f.mm * 60 + f.ss

theorem secNum_eq (f : Fields) : secNum f = dayNum f.y f.m f.d * 86400 + todSec f := by
  simp only [secNum, todSec]; omega

theorem valid_tod_range {f : Fields} (h : Valid f) : 0 ≤ todSec f ∧ todSec f < 86400 := by
  obtain ⟨_, _, _, _, h5, h6, h7, h8, h9, h10⟩ := h
  simp only [todSec]; omega

def TodLex (a b : Fields) : Prop :=
  a.hh < b.hh ∨ (a.hh = b.hh ∧ (a.mm < b.mm ∨ (a.mm = b.mm ∧ a.ss < b.ss)))

def FieldsLex (a b : Fields) : Prop :=
  DateLex a.y a.m a.d b.y b.m b.d ∨ (a.y = b.y ∧ a.m = b.m ∧ a.d = b.d ∧
    (a.hh < b.hh ∨ (a.hh = b.hh ∧ (a.mm < b.mm ∨ (a.mm = b.mm ∧ a.ss < b.ss)))))

theorem secNum_lt_of_lex {a b : Fields} (va : Valid a) (vb : Valid b) (h : FieldsLex a b) :
    secNum a < secNum b := by
  have ra := valid_tod_range va; have rb := valid_tod_range vb
  rw [secNum_eq, secNum_eq]
  rcases h with h | ⟨h1, h2, h3, h⟩
  · have := dayNum_lt_of_lex (valid_date va) (valid_date vb) h; omega
  · rw [h1, h2, h3]
    obtain ⟨_, _, _, _, a5, a6, a7, a8, a9, a10⟩ := va
    obtain ⟨_, _, _, _, b5, b6, b7, b8, b9, b10⟩ := vb
    simp only [todSec]; omega

theorem FieldsLex.trichotomy (a b : Fields) : FieldsLex a b ∨ a = b ∨ FieldsLex b a := by
  have ht : TodLex a b ∨ (a.hh = b.hh ∧ a.mm = b.mm ∧ a.ss = b.ss) ∨ TodLex b a := by
    unfold TodLex; omega
  rcases DateLex.trichotomy a.y a.m a.d b.y b.m b.d with h | ⟨h1, h2, h3⟩ | h
  · exact Or.inl (Or.inl h)
  · rcases ht with h | ⟨h4, h5, h6⟩ | h
    · exact Or.inl (Or.inr ⟨h1, h2, h3, h⟩)
    · cases a; cases b; simp only at h1 h2 h3 h4 h5 h6
      subst h1 h2 h3 h4 h5 h6; exact Or.inr (Or.inl rfl)
    · exact Or.inr (Or.inr (Or.inr ⟨h1.symm, h2.symm, h3.symm, h⟩))
  · exact Or.inr (Or.inr (Or.inl h))

theorem secNum_lt_iff_inj {a b : Fields} (va : Valid a) (vb : Valid b) :
    (secNum a < secNum b ↔ FieldsLex a b) ∧ (secNum a = secNum b → a = b) :=
  lt_iff_of_trichotomy (FieldsLex.trichotomy a b) (secNum_lt_of_lex va vb) (fun h => by rw [h])
    (secNum_lt_of_lex vb va)

theorem secNum_lt_iff_lex {a b : Fields} (va : Valid a) (vb : Valid b) :
    secNum a < secNum b ↔ FieldsLex a b :=
  (secNum_lt_iff_inj va vb).1

theorem secNum_inj {a b : Fields} (va : Valid a) (vb : Valid b) (h : secNum a = secNum b) :
    a = b :=
  (secNum_lt_iff_inj va vb).2 h

theorem secNum_strictMono {a b : Fields} (va : Valid a) (vb : Valid b) :
    FieldsLex a b → secNum a < secNum b := secNum_lt_of_lex va vb

end Cctz
