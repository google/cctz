/-
  C07Class helper proofs, parse side: seconds with a fraction (`%E*S`, `%E<n>S`) and bare fractions
  (`%E*f`, `%E<n>f`), for any continuation of the text that does not begin with a digit.
-/
import Cctz.Proofs.RtClassText
import Cctz.Proofs.RtClassStep
import Cctz.Proofs.RtClassState

namespace Cctz.Rtc
open Cctz Cctz.Bytes Cctz.Format Cctz.Parse Cctz.Spec Cctz.Spec.Lex Cctz.Pa Cctz.Wr Cctz.Rt

/-! ### `ParseSubSeconds` -/

/-- a non-empty digit string followed by no digit is consumed whole; the first 15 digits count -/
theorem parseSubSeconds_digits (ds rest : Bytes) (hd : AllDigits ds) (hne : ds ≠ [])
    (hrest : isDigit (rest.headD 0) = false) :
    parseSubSeconds (ds ++ rest) =
      some (rest, nv 0 (ds.take 15) * Gen.kExp10.getD (15 - (ds.take 15).length) 1) := by
  obtain ⟨t1, t2⟩ := takeWhile_append_of_all (p := isDigit) ds rest hd hrest
  unfold parseSubSeconds
  simp only [t1, t2]
  have hemp : ds.isEmpty = false := by
    cases ds with
    | nil => exact absurd rfl hne
    | cons => rfl
  simp only [hemp, Bool.false_eq_true, if_false]
  rfl

theorem parseSubSeconds_frac (n : Nat) (fs : Int) (rest : Bytes) (hn : 15 ≤ n) (h0 : 0 ≤ fs)
    (h1 : fs < 1000000000000000) (hrest : isDigit (rest.headD 0) = false) :
    parseSubSeconds (Lex.frac n fs ++ rest) = some (rest, fs) := by
  rw [parseSubSeconds_digits _ rest (allDigits_frac n fs hn) (frac_ne_nil n fs hn) hrest]
  obtain ⟨hlen, _, hval⟩ := decPad15 fs.toNat (by omega)
  have ht : (Lex.frac n fs).take 15 = decPad 15 fs.toNat := by
    rw [frac_ge15 n fs hn, List.take_append_of_le_length (by omega), List.take_of_length_le (by omega)]
  rw [ht, hlen, hval]
  simp [Gen.kExp10]
  omega

theorem fracStar_pos (fs : Int) (h0 : 0 ≤ fs) (hz : fracStar fs ≠ []) : 0 < fs := by
  rcases Int.lt_or_eq_of_le h0 with h | h
  · exact h
  · exact absurd (by rw [← h]; exact fracStar_zero) hz

theorem parseSubSeconds_starF (fs : Int) (rest : Bytes) (h0 : 0 ≤ fs) (h1 : fs < 1000000000000000)
    (hrest : isDigit (rest.headD 0) = false) :
    parseSubSeconds (starFText fs ++ rest) = some (rest, fs) := by
  unfold starFText
  split
  · next hz =>
    rw [parseSubSeconds_digits [48] rest (allDigits_zeros 1) (by simp) hrest, fracStar_nil fs h0 h1 hz]
    rfl
  · next hz => exact parseSubSeconds_fracStar fs rest (fracStar_pos fs h0 hz) h1 hrest

/-! ### `parseSecFrac`, `parseFrac` -/

/-- `%E*S`: the fraction is absent exactly when it is zero; the state's fraction must then be zero
already (it is: `subseconds` is 0 until a fraction is read, and every fraction read is the true one) -/
theorem parseSecFrac_star' (st : PState) (ss fs : Int) (rest : Bytes)
    (hs0 : 0 ≤ ss) (hs1 : ss ≤ 59) (h0 : 0 ≤ fs) (h1 : fs < 1000000000000000)
    (hrest : isDigit (rest.headD 0) = false) (hdot : rest.headD 0 ≠ 46)
    (hsub : st.subseconds = 0 ∨ st.subseconds = fs) :
    parseSecFrac st ((format02d ss).val ++ ((if fracStar fs = [] then [] else 46 :: fracStar fs) ++ rest)) =
      { st with tm := { st.tm with sec := ss }, ghost := st.ghost ++ [(83, ss)], data := some rest,
                subseconds := fs } := by
  have hp := parseInt32_format02d ss 0 60
    ((if fracStar fs = [] then [] else 46 :: fracStar fs) ++ rest) hs0 (by omega) hs0 (by omega)
  unfold parseSecFrac
  simp only [Gen.parse_S, hp]
  by_cases hz : fracStar fs = []
  · have hfs : fs = 0 := fracStar_nil fs h0 h1 hz
    have hsub' : st.subseconds = fs := by rcases hsub with h | h <;> omega
    simp only [hz, if_true, List.nil_append, peek, hdot, if_false]
    rw [← hsub']
  · have hq := parseSubSeconds_fracStar fs rest (fracStar_pos fs h0 hz) h1 hrest
    simp only [hz, if_false, List.cons_append, peek, List.headD_cons, if_true, List.drop_succ_cons,
      List.drop_zero, hq]

/-- `%E<n>S`, n ≥ 15: the fraction is always there -/
theorem parseSecFrac_dig (st : PState) (n : Nat) (ss fs : Int) (rest : Bytes) (hn : 15 ≤ n)
    (hs0 : 0 ≤ ss) (hs1 : ss ≤ 59) (h0 : 0 ≤ fs) (h1 : fs < 1000000000000000)
    (hrest : isDigit (rest.headD 0) = false) :
    parseSecFrac st ((format02d ss).val ++ (46 :: (Lex.frac n fs ++ rest))) =
      { st with tm := { st.tm with sec := ss }, ghost := st.ghost ++ [(83, ss)], data := some rest,
                subseconds := fs } := by
  have hp := parseInt32_format02d ss 0 60 (46 :: (Lex.frac n fs ++ rest)) hs0 (by omega) hs0 (by omega)
  have hq := parseSubSeconds_frac n fs rest hn h0 h1 hrest
  unfold parseSecFrac
  simp only [Gen.parse_S, hp]
  simp only [peek, List.headD_cons, if_true, List.drop_succ_cons, List.drop_zero, hq]

theorem parseFrac_digits (st : PState) (ds rest : Bytes) (fs : Int) (hd : AllDigits ds) (hne : ds ≠ [])
    (hq : parseSubSeconds (ds ++ rest) = some (rest, fs)) :
    parseFrac st (ds ++ rest) = { st with data := some rest, subseconds := fs } := by
  obtain ⟨c, r, e, hc⟩ := hd.head hne
  unfold parseFrac
  rw [hq]
  simp [e, peek, hc]

variable (sp : Strptime) {al : Tz.AbsLookup} {t fs : Int} (E : Env al t fs) (st : PState) (rest f' : Bytes)
include E

theorem reads_secStar (hf : st.fmt = 37 :: (spellC .secStar ++ f'))
    (hrest : isDigit (rest.headD 0) = false) (hdot : rest.headD 0 ≠ 46) (hs : Stat fs st) :
    StepOK al t fs (.conv .secStar) st rest f' (stepSpec sp st (renderConv (toConv .secStar) al t fs ++ rest)) := by
  obtain ⟨_, _, _, _, _, _, _, _, hs1, hs2⟩ := E.bounds
  have hr : renderConv (toConv .secStar) al t fs =
      (format02d al.cs.ss).val ++ (if fracStar fs = [] then [] else 46 :: fracStar fs) := by
    rw [← two_eq _ hs1 (by omega)]; rfl
  rw [hr, List.append_assoc, stepSpec_secStar sp st _ f' hf,
    parseSecFrac_star' st _ fs rest hs1 hs2 E.fs0 E.fs1 hrest hdot hs.2.2]
  exact stepOK_put [.second, .frac] rfl st rest f' hs _ _ _ hs.1 hs.2.1

theorem reads_secN (n : Nat) (hv : (Item.conv (.secN n)).valid) (hf : st.fmt = 37 :: (spellC (.secN n) ++ f'))
    (hrest : isDigit (rest.headD 0) = false) (hs : Stat fs st) :
    StepOK al t fs (.conv (.secN n)) st rest f'
      (stepSpec sp st (renderConv (toConv (.secN n)) al t fs ++ rest)) := by
  obtain ⟨_, _, _, _, _, _, _, _, hs1, hs2⟩ := E.bounds
  have hr : renderConv (toConv (.secN n)) al t fs = (format02d al.cs.ss).val ++ 46 :: Lex.frac n fs := by
    rw [← two_eq _ hs1 (by omega)]
    show decPad 2 al.cs.ss.toNat ++ (if n = 0 then [] else 46 :: Lex.frac n fs) = _
    rw [if_neg (by have := hv.1; omega)]
  have hf' : st.fmt = 37 :: 69 :: (decNat n ++ 83 :: f') := by rw [hf]; simp [spellC]
  rw [hr, List.append_assoc, List.cons_append,
    stepSpec_Edig sp st n 83 _ f' hf' (by have := hv.1; omega) hv.2 (Or.inl rfl), if_pos rfl,
    parseSecFrac_dig st n _ fs rest hv.1 hs1 hs2 E.fs0 E.fs1 hrest]
  exact stepOK_put [.second, .frac] rfl st rest f' hs _ _ _ hs.1 hs.2.1

theorem reads_fracStar (hf : st.fmt = 37 :: (spellC .fracStar ++ f'))
    (hrest : isDigit (rest.headD 0) = false) (hs : Stat fs st) :
    StepOK al t fs (.conv .fracStar) st rest f' (stepSpec sp st (renderConv (toConv .fracStar) al t fs ++ rest)) := by
  rw [show renderConv (toConv .fracStar) al t fs = starFText fs from rfl, stepSpec_fracStar sp st _ f' hf,
    parseFrac_digits st _ rest fs (allDigits_starF fs E.fs0 E.fs1) (starF_ne_nil fs)
      (parseSubSeconds_starF fs rest E.fs0 E.fs1 hrest)]
  exact stepOK_put [.frac] rfl st rest f' hs _ _ _ hs.1 hs.2.1

theorem reads_fracN (n : Nat) (hv : (Item.conv (.fracN n)).valid) (hf : st.fmt = 37 :: (spellC (.fracN n) ++ f'))
    (hrest : isDigit (rest.headD 0) = false) (hs : Stat fs st) :
    StepOK al t fs (.conv (.fracN n)) st rest f'
      (stepSpec sp st (renderConv (toConv (.fracN n)) al t fs ++ rest)) := by
  have hr : renderConv (toConv (.fracN n)) al t fs = Lex.frac n fs := by
    show (if n = 0 then [] else Lex.frac n fs) = _
    rw [if_neg (by have := hv.1; omega)]
  have hf' : st.fmt = 37 :: 69 :: (decNat n ++ 102 :: f') := by rw [hf]; simp [spellC]
  rw [hr, stepSpec_Edig sp st n 102 _ f' hf' (by have := hv.1; omega) hv.2 (Or.inr rfl), if_neg (by decide),
    parseFrac_digits st _ rest fs (allDigits_frac n fs hv.1) (frac_ne_nil n fs hv.1)
      (parseSubSeconds_frac n fs rest hv.1 E.fs0 E.fs1 hrest)]
  exact stepOK_put [.frac] rfl st rest f' hs _ _ _ hs.1 hs.2.1

end Cctz.Rtc
