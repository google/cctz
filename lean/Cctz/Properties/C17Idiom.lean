/-
  C17 (continued) — the weekday idioms documented in `include/cctz/civil_time.h`:

      next_weekday(d - 1, wd)   "the following wd if d is not already wd"  (first wd on or after d)
      prev_weekday(d + 1, wd)   "the previous wd if d is not already wd"   (last wd on or before d)

  and the composition `get_weekday(next_weekday(d, wd)) == wd`.  These chain three modelled
  functions (`civilSub`/`civilAdd` on days, `nextWeekday`/`prevWeekday`, `getWeekday`), so they are
  statements about the model's *composition*, not restatements of the single-function theorems in
  `C17.lean`.
-/
import Cctz.Properties.C05
import Cctz.Properties.C17
import Cctz.Properties.C04Align

namespace Cctz.C17Idiom
open Cctz.Spec

/-- `get_weekday(next_weekday(d, w)) = w` and `get_weekday(prev_weekday(d, w)) = w` -/
def weekday_of_result_statement : Prop :=
  ∀ (cd : Fields) (w : Int), Valid cd → Aligned .day cd → 0 ≤ w → w ≤ 6 →
    (Civil.getWeekday (Civil.nextWeekday cd w).val).val = w ∧
    (Civil.getWeekday (Civil.prevWeekday cd w).val).val = w

/-- `next_weekday(d - 1, w)`: the first day on or after `d` that falls on `w` (0..6 days away,
`d` itself when `d` already is a `w`) -/
def onOrAfter_statement : Prop :=
  ∀ (cd : Fields) (w : Int), Valid cd → Aligned .day cd → 0 ≤ w → w ≤ 6 →
    let r := (Civil.nextWeekday (Civil.civilSub .day cd 1).val w).val
    Valid r ∧ Aligned .day r ∧
    ∃ k : Int, 0 ≤ k ∧ k ≤ 6 ∧ dayNum r.y r.m r.d = dayNum cd.y cd.m cd.d + k ∧
      weekdayOfDay (dayNum cd.y cd.m cd.d + k) = w ∧
      ∀ j : Int, 0 ≤ j → j < k → weekdayOfDay (dayNum cd.y cd.m cd.d + j) ≠ w

/-- `prev_weekday(d + 1, w)`: the last day on or before `d` that falls on `w` -/
def onOrBefore_statement : Prop :=
  ∀ (cd : Fields) (w : Int), Valid cd → Aligned .day cd → 0 ≤ w → w ≤ 6 →
    let r := (Civil.prevWeekday (Civil.civilAdd .day cd 1).val w).val
    Valid r ∧ Aligned .day r ∧
    ∃ k : Int, 0 ≤ k ∧ k ≤ 6 ∧ dayNum r.y r.m r.d = dayNum cd.y cd.m cd.d - k ∧
      weekdayOfDay (dayNum cd.y cd.m cd.d - k) = w ∧
      ∀ j : Int, 0 ≤ j → j < k → weekdayOfDay (dayNum cd.y cd.m cd.d - j) ≠ w

/-- the two idioms leave a day that already falls on `w` where it is -/
def idiom_fixpoint_statement : Prop :=
  ∀ (cd : Fields), Valid cd → Aligned .day cd →
    let w := (Civil.getWeekday cd).val
    (Civil.nextWeekday (Civil.civilSub .day cd 1).val w).val = cd ∧
    (Civil.prevWeekday (Civil.civilAdd .day cd 1).val w).val = cd

/-- `prev_weekday(next_weekday(d, w), w')` with `w' = get_weekday(d)` returns to `d`, and
`next_weekday` then `next_weekday` with the same weekday advances exactly one week -/
def week_step_statement : Prop :=
  ∀ (cd : Fields) (w : Int), Valid cd → Aligned .day cd → 0 ≤ w → w ≤ 6 →
    let r := (Civil.nextWeekday cd w).val
    let r2 := (Civil.nextWeekday r w).val
    dayNum r2.y r2.m r2.d = dayNum r.y r.m r.d + 7

theorem weekday_of_result : weekday_of_result_statement := by
  intro cd w hv ha hw0 hw6
  obtain ⟨_, _, _, v1, _, k, _, _, hd, hwk, _⟩ := C17.nextWeekday_spec cd w hv ha hw0 hw6
  obtain ⟨_, _, _, v2, _, k2, _, _, hd2, hwk2, _⟩ := C17.prevWeekday_spec cd w hv ha hw0 hw6
  constructor
  · rw [(C17.getWeekday_spec _ v1).2, hd]; exact hwk
  · rw [(C17.getWeekday_spec _ v2).2, hd2]; exact hwk2

theorem onOrAfter : onOrAfter_statement := by
  intro cd w hv ha hw0 hw6
  obtain ⟨v0, a0, u0⟩ := C05.sub_exact .day cd 1 hv ha
  obtain ⟨_, _, _, v1, a1, k, hk1, hk7, hd, hwk, hmin⟩ :=
    C17.nextWeekday_spec (Civil.civilSub .day cd 1).val w v0 a0 hw0 hw6
  simp only [unitNum] at u0
  refine ⟨v1, a1, k - 1, by omega, by omega, ?_, ?_, ?_⟩
  · rw [hd, u0]; omega
  · rw [u0] at hwk
    have : dayNum cd.y cd.m cd.d + (k - 1) = dayNum cd.y cd.m cd.d - 1 + k := by omega
    rw [this]; exact hwk
  · intro j hj0 hjk
    have := hmin (j + 1) (by omega) (by omega)
    rw [u0] at this
    have e : dayNum cd.y cd.m cd.d - 1 + (j + 1) = dayNum cd.y cd.m cd.d + j := by omega
    rw [e] at this; exact this

theorem onOrBefore : onOrBefore_statement := by
  intro cd w hv ha hw0 hw6
  obtain ⟨v0, a0, u0⟩ := C05.add_exact .day cd 1 hv ha
  obtain ⟨_, _, _, v1, a1, k, hk1, hk7, hd, hwk, hmin⟩ :=
    C17.prevWeekday_spec (Civil.civilAdd .day cd 1).val w v0 a0 hw0 hw6
  simp only [unitNum] at u0
  refine ⟨v1, a1, k - 1, by omega, by omega, ?_, ?_, ?_⟩
  · rw [hd, u0]; omega
  · rw [u0] at hwk
    have : dayNum cd.y cd.m cd.d - (k - 1) = dayNum cd.y cd.m cd.d + 1 - k := by omega
    rw [this]; exact hwk
  · intro j hj0 hjk
    have := hmin (j + 1) (by omega) (by omega)
    rw [u0] at this
    have e : dayNum cd.y cd.m cd.d + 1 - (j + 1) = dayNum cd.y cd.m cd.d - j := by omega
    rw [e] at this; exact this

theorem idiom_fixpoint : idiom_fixpoint_statement := by
  intro cd hv ha
  have hw := (C17.getWeekday_spec cd hv).2
  have hr := Wd.weekdayOfDay_range (dayNum cd.y cd.m cd.d)
  constructor
  · obtain ⟨v1, a1, k, hk0, _, hd, _, hmin⟩ :=
      onOrAfter cd (Civil.getWeekday cd).val hv ha (by rw [hw]; exact hr.1) (by rw [hw]; exact hr.2)
    have hk : k = 0 := by
      by_cases h : 0 < k
      · exact absurd (by simpa using hw.symm) (hmin 0 (by omega) h)
      · omega
    apply unitNum_inj .day v1 hv a1 ha
    simp only [unitNum]; rw [hd, hk]; omega
  · obtain ⟨v1, a1, k, hk0, _, hd, _, hmin⟩ :=
      onOrBefore cd (Civil.getWeekday cd).val hv ha (by rw [hw]; exact hr.1) (by rw [hw]; exact hr.2)
    have hk : k = 0 := by
      by_cases h : 0 < k
      · exact absurd (by simpa using hw.symm) (hmin 0 (by omega) h)
      · omega
    apply unitNum_inj .day v1 hv a1 ha
    simp only [unitNum]; rw [hd, hk]; omega

theorem week_step : week_step_statement := by
  intro cd w hv ha hw0 hw6
  obtain ⟨_, _, _, v1, a1, k, _, _, hd, hwk, _⟩ := C17.nextWeekday_spec cd w hv ha hw0 hw6
  obtain ⟨_, _, _, _, _, k2, hk1, hk7, hd2, hwk2, hmin2⟩ :=
    C17.nextWeekday_spec (Civil.nextWeekday cd w).val w v1 a1 hw0 hw6
  simp only []
  rw [hd2]
  rw [hd] at hwk2
  unfold weekdayOfDay at hwk hwk2
  omega

/-! satisfiable on non-trivial values: 2024-02-29 is a Thursday (3); the first Monday on or after
it is 2024-03-04, the last Monday on or before it 2024-02-26; asked for Thursday both stay put -/
example : (Civil.nextWeekday (Civil.civilSub .day ⟨2024, 2, 29, 0, 0, 0⟩ 1).val 0).val = ⟨2024, 3, 4, 0, 0, 0⟩ := by decide +kernel
example : (Civil.prevWeekday (Civil.civilAdd .day ⟨2024, 2, 29, 0, 0, 0⟩ 1).val 0).val = ⟨2024, 2, 26, 0, 0, 0⟩ := by decide +kernel
example : (Civil.nextWeekday (Civil.civilSub .day ⟨2024, 2, 29, 0, 0, 0⟩ 1).val 3).val = ⟨2024, 2, 29, 0, 0, 0⟩ := by decide +kernel

/-! ### the day-of-year ordinal inverts; weekdays differ as days do -/

/-- `civil_day(y, 1, 1) + (get_yearday(f) − 1)` is the day of `f`: the ordinal inverts -/
def yearday_inverse_statement : Prop :=
  ∀ f : Fields, Valid f →
    (Civil.civilAdd .day ⟨f.y, 1, 1, 0, 0, 0⟩ ((Civil.getYearday f).val - 1)).val = Civil.align .day f

/-- weekdays differ as the day difference does, modulo 7 -/
def weekday_difference_statement : Prop :=
  ∀ a b : Fields, Valid a → Valid b → Aligned .day a → Aligned .day b →
    ((Civil.getWeekday a).val - (Civil.getWeekday b).val) % 7 = (Civil.difference .day a b).val % 7

theorem yearday_inverse : yearday_inverse_statement := by
  intro f vf
  obtain ⟨_, hyd, _, _⟩ := C17.getYearday_spec f vf
  have vj : Valid ⟨f.y, 1, 1, 0, 0, 0⟩ := by
    unfold Valid daysInMonth; simp
  have aj : Aligned .day ⟨f.y, 1, 1, 0, 0, 0⟩ := ⟨rfl, rfl, rfl⟩
  obtain ⟨v1, a1, u1⟩ := C05.add_exact .day _ ((Civil.getYearday f).val - 1) vj aj
  obtain ⟨v2, a2, s2, _⟩ := C04.align_spec .day f vf
  apply unitNum_inj .day v1 v2 a1 a2
  rw [u1, hyd]
  obtain ⟨e1, e2, e3⟩ := s2
  simp only [unitNum]
  rw [e1, e2, e3]; omega

theorem weekday_difference : weekday_difference_statement := by
  intro a b va vb ha hb
  rw [(C17.getWeekday_spec a va).2, (C17.getWeekday_spec b vb).2,
    C05.difference_exact .day a b va vb ha hb]
  simp only [unitNum, weekdayOfDay]
  omega

example : (Civil.civilAdd .day ⟨2024, 1, 1, 0, 0, 0⟩ ((Civil.getYearday ⟨2024, 12, 31, 7, 8, 9⟩).val - 1)).val
    = ⟨2024, 12, 31, 0, 0, 0⟩ := by decide +kernel

end Cctz.C17Idiom
