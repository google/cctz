/-
  Table-level lookup lemmas for C01: `localTimeTT` / `localTimeTr` are exact, and `breakTimeCore`
  carries out, whatever the hint, the computation `tableAns` that depends on the table segment of
  `t` (`segIndex`) only — same answer, same flags; `breakTime` beyond an extended table is
  `breakTimeCore` whole 400-year cycles earlier (`breakTime_val`, `yearShift_spec`).
-/
import Cctz.Model.Tz
import Cctz.Spec.TableSem
import Cctz.Proofs.CivilArith
import Cctz.Proofs.TbSearch
import Cctz.Proofs.TcSeg
import Cctz.Proofs.IntLemmas

namespace Cctz.Tl
open Cctz Cctz.Tz Cctz.Spec

theorem getType_val (z : Zone) (i : Nat) : (getType z i).val = typ z i := by
  unfold getType typ
  rw [Array.getD_eq_getD_getElem?]
  cases h : z.types[i]? <;> rfl

theorem getTrans_val (z : Zone) (i : Nat) : (getTrans z i).val = trn z i := by
  unfold getTrans trn
  rw [Array.getD_eq_getD_getElem?]
  cases h : z.transitions[i]? <;> rfl

theorem prevType_lt (z : Zone) (wf : TableWF z) (i : Nat) : prevType z i < z.types.size := by
  unfold prevType
  split
  · exact wf.defaultIdx
  · by_cases h : i - 1 < z.transitions.size
    · exact wf.typeIdx _ h
    · have : trn z (i - 1) = default := by
        unfold trn
        rw [Array.getD_eq_getD_getElem?, Array.getElem?_eq_none (by omega)]
        rfl
      rw [this]
      exact Nat.lt_of_le_of_lt (Nat.zero_le _) wf.defaultIdx

theorem upperBoundTime_eq (z : Zone) (wf : TableWF z) (t : Int) :
    upperBoundTime z.transitions t = segIndex z t := by
  have h := Tb.upperBoundTime_spec wf t
  refine (Tc.segIndex_of_inSeg wf ⟨h.2.1, fun hp => ?_, fun hl => h.above (Nat.le_refl _) hl⟩).symm
  have := h.below (Nat.zero_le _) (show upperBoundTime z.transitions t - 1 < _ by omega)
  unfold timeOf; omega

/-! ## the two `LocalTime` overloads -/

/-- the answer `a` is what type `k` shows at instant `t` -/
def ShowsType (z : Zone) (t : Int) (k : Nat) (a : AbsLookup) : Prop :=
  Valid a.cs ∧ secNum a.cs = t + (typ z k).utcOffset ∧ a.offset = (typ z k).utcOffset ∧
  a.isDst = (typ z k).isDst ∧ a.abbr = abbrAt z.abbreviations (typ z k).abbrIndex

theorem valid_epoch : Valid epoch := by decide
theorem secNum_epoch : secNum epoch = 0 := by decide

theorem localTimeTT_spec (abbrs : Bytes) (t : Int) (tt : TransitionType) :
    let a := (localTimeTT abbrs t tt).val
    Valid a.cs ∧ secNum a.cs = t + tt.utcOffset ∧ a.offset = tt.utcOffset ∧ a.isDst = tt.isDst ∧
    a.abbr = abbrAt abbrs tt.abbrIndex := by
  obtain ⟨v1, _, u1⟩ := civilAdd_spec .second epoch t valid_epoch trivial
  obtain ⟨v2, _, u2⟩ := civilAdd_spec .second _ tt.utcOffset v1 trivial
  refine ⟨v2, ?_, rfl, rfl, rfl⟩
  show secNum (Civil.civilAdd .second (Civil.civilAdd .second epoch t).val tt.utcOffset).val = _
  have e1 : secNum (Civil.civilAdd .second epoch t).val = secNum epoch + t := u1
  have e2 : secNum (Civil.civilAdd .second (Civil.civilAdd .second epoch t).val tt.utcOffset).val =
    secNum (Civil.civilAdd .second epoch t).val + tt.utcOffset := u2
  rw [e2, e1, secNum_epoch]; omega

theorem localTimeTr_shows (z : Zone) (cc : CivilCols z) (t : Int) (i : Nat)
    (hi : i < z.transitions.size) :
    ShowsType z t (trn z i).typeIndex (localTimeTr z t (trn z i)).val := by
  obtain ⟨v, s⟩ := cc.civ i hi
  obtain ⟨v1, _, u1⟩ := civilAdd_spec .second (trn z i).civilSec (t - (trn z i).unixTime) v trivial
  have e : (localTimeTr z t (trn z i)).val =
      ⟨(Civil.civilAdd .second (trn z i).civilSec (t - (trn z i).unixTime)).val,
        (typ z (trn z i).typeIndex).utcOffset, (typ z (trn z i).typeIndex).isDst,
        abbrAt z.abbreviations (typ z (trn z i).typeIndex).abbrIndex⟩ := by
    rw [← getType_val]; rfl
  rw [e]
  refine ⟨v1, ?_, rfl, rfl, rfl⟩
  have u1 : secNum (Civil.civilAdd .second (trn z i).civilSec (t - (trn z i).unixTime)).val =
    secNum (trn z i).civilSec + (t - (trn z i).unixTime) := u1
  show secNum (Civil.civilAdd .second (trn z i).civilSec (t - (trn z i).unixTime)).val = _
  rw [u1, s]; unfold timeOf offOf; omega

/-! ## `BreakTime` below the shift -/

/-- what the table answers at `t`: the default type before the first entry, else the latest entry
at or before `t` -/
def tableAns (z : Zone) (t : Int) : Ck AbsLookup :=
  if segIndex z t = 0 then getType z z.defaultType >>= localTimeTT z.abbreviations t
  else localTimeTr z t (trn z (segIndex z t - 1))

theorem tableAns_of_inSeg {z : Zone} (wf : TableWF z) {k : Nat} {t : Int} (hk : Tc.InSeg z k t) :
    tableAns z t = if k = 0 then getType z z.defaultType >>= localTimeTT z.abbreviations t
      else localTimeTr z t (trn z (k - 1)) := by
  unfold tableAns; rw [Tc.segIndex_of_inSeg wf hk]

/-- `breakTimeCore` finds the segment of `t`, whatever the hint: the hint only short-cuts the
search, and a hint that brackets `t` is the index the search would find -/
theorem breakTimeCore_char {z : Zone} (wf : TableWF z) (h : Nat) (t : Int) :
    (breakTimeCore z h t).val.1 = (tableAns z t).val ∧
    (breakTimeCore z h t).flags = (tableAns z t).flags := by
  have hn := wf.nonempty
  have hl : z.transitions.size - 1 < z.transitions.size := by omega
  unfold breakTimeCore
  simp only [Tb.getTrans_eq z 0 hn, Tb.getTrans_eq z _ hl, Ck.bind_val, Ck.bind_flags, Ck.pure_val,
    Ck.pure_flags, Flags.none_or]
  by_cases c1 : t < (trn z 0).unixTime
  · rw [tableAns_of_inSeg wf ⟨Nat.zero_le _, fun h => absurd h (by omega), fun _ => c1⟩]
    simp only [c1, if_true, Ck.bind_val, Ck.bind_flags, Ck.pure_val, Ck.pure_flags, Flags.or_none]
    exact ⟨trivial, trivial⟩
  by_cases c2 : t ≥ (trn z (z.transitions.size - 1)).unixTime
  · rw [tableAns_of_inSeg wf ⟨Nat.le_refl _, fun _ => c2, fun h => absurd h (by omega)⟩]
    simp only [c1, c2, if_false, if_true, Ck.bind_val, Ck.bind_flags, Ck.pure_val, Ck.pure_flags,
      Flags.or_none, Flags.none_or, if_neg (Nat.ne_of_gt hn)]
    exact ⟨trivial, trivial⟩
  -- otherwise the answer is computed from entry `k - 1` for some `k` in whose stretch `t` lies
  have key : ∀ k, 0 < k → Tc.InSeg z k t →
      (localTimeTr z t (trn z (k - 1))).val = (tableAns z t).val ∧
      (localTimeTr z t (trn z (k - 1))).flags = (tableAns z t).flags := by
    intro k h0 hk
    rw [tableAns_of_inSeg wf hk, if_neg (by omega)]
    exact ⟨rfl, rfl⟩
  have sp := Tb.upperBoundTime_spec wf t
  have hu : Tc.InSeg z (upperBoundTime z.transitions t) t := by
    rw [upperBoundTime_eq z wf t]; exact Tc.inSeg_segIndex wf t
  have hu0 : 0 < upperBoundTime z.transitions t := by
    rcases Nat.eq_zero_or_pos (upperBoundTime z.transitions t) with h0 | h0
    · exact absurd (sp.above (by omega) hn) c1
    · exact h0
  have gk := Tb.getTrans_eq z (upperBoundTime z.transitions t - 1) (by have := sp.2.1; omega)
  simp only [c1, c2, if_false, Ck.bind_val, Ck.bind_flags, Ck.pure_val, Ck.pure_flags, Flags.none_or]
  by_cases c3 : 0 < h ∧ h < z.transitions.size
  · simp only [c3, and_self, if_true, Tb.getTrans_eq z (h - 1) (by omega), Tb.getTrans_eq z h c3.2,
      Ck.bind_val, Ck.bind_flags, Ck.pure_val, Ck.pure_flags, Flags.none_or]
    by_cases c4 : (trn z (h - 1)).unixTime ≤ t
    · by_cases c5 : t < (trn z h).unixTime
      · simp only [c4, c5, if_true, Ck.bind_val, Ck.bind_flags, Ck.pure_val, Ck.pure_flags,
          Flags.none_or, Flags.or_none]
        exact key h c3.1 ⟨by omega, fun _ => c4, fun _ => c5⟩
      · simp only [c4, c5, if_true, if_false, gk, Ck.bind_val, Ck.bind_flags, Ck.pure_val,
          Ck.pure_flags, Flags.none_or, Flags.or_none]
        exact key _ hu0 hu
    · simp only [c4, if_false, gk, Ck.bind_val, Ck.bind_flags, Ck.pure_val, Ck.pure_flags,
        Flags.none_or, Flags.or_none]
      exact key _ hu0 hu
  · simp only [c3, if_false, gk, Ck.bind_val, Ck.bind_flags, Ck.pure_val, Ck.pure_flags,
      Flags.none_or, Flags.or_none]
    exact key _ hu0 hu

/-- the answer is the one the table gives at `t` -/
def LookupAt (z : Zone) (t : Int) (a : AbsLookup) : Prop :=
  Valid a.cs ∧ secNum a.cs = t + offAt z t ∧ a.offset = offAt z t ∧
  a.isDst = (typ z (typeAt z t)).isDst ∧
  a.abbr = abbrAt z.abbreviations (typ z (typeAt z t)).abbrIndex

theorem tableAns_spec (z : Zone) (wf : TableWF z) (cc : CivilCols z) (t : Int) :
    LookupAt z t (tableAns z t).val := by
  have hs := (Tc.inSeg_segIndex wf t).1
  show ShowsType z t (typeAt z t) _
  unfold tableAns typeAt
  by_cases h0 : segIndex z t = 0
  · rw [if_pos h0, if_pos h0, Ck.bind_val, getType_val]
    exact localTimeTT_spec z.abbreviations t (typ z z.defaultType)
  · rw [if_neg h0, if_neg h0]
    exact localTimeTr_shows z cc t _ (by omega)

theorem breakTimeCore_spec (z : Zone) (wf : TableWF z) (cc : CivilCols z) (h : Nat) (t : Int) :
    LookupAt z t (breakTimeCore z h t).val.1 := by
  rw [(breakTimeCore_char wf h t).1]; exact tableAns_spec z wf cc t

/-! ## `BreakTime` beyond an extended table: the 400-year shift -/

/-- the shift path is taken exactly at or beyond the last entry of an extended table -/
def TakesShift (z : Zone) (t : Int) : Prop :=
  ¬ t < timeOf z 0 ∧ t ≥ timeOf z (z.transitions.size - 1) ∧ z.extended = true

instance (z : Zone) (t : Int) : Decidable (TakesShift z t) := by unfold TakesShift; infer_instance

theorem breakTime_val (z : Zone) (h : Nat) (t : Int) :
    (breakTime z h t).val =
      if TakesShift z t then
        let s := cdiv (t - timeOf z (z.transitions.size - 1)) Gen.kSecsPer400Years + 1
        let r := (breakTimeCore z h (t - s * Gen.kSecsPer400Years)).val
        ({ r.1 with cs := (yearShift r.1.cs (s * 400)).val }, r.2)
      else (breakTimeCore z h t).val := by
  unfold breakTime TakesShift
  simp only [Ck.bindv, getTrans_val, Ck.ite_val, Ck.pure_val, chk64_val, timeOf, Bool.not_eq_true',
    decide_eq_false_iff_not]
  congr

theorem breakTime_noshift (z : Zone) (h : Nat) (t : Int)
    (hc : z.extended = false ∨ t < timeOf z (z.transitions.size - 1)) :
    (breakTime z h t).val = (breakTimeCore z h t).val := by
  rw [breakTime_val, if_neg]
  unfold TakesShift
  rcases hc with hc | hc
  · rw [hc]; simp
  · omega

theorem breakTime_hint {z : Zone} (wf : TableWF z) (h h' : Nat) (t : Int) :
    (breakTime z h t).val.1 = (breakTime z h' t).val.1 ∧
    (breakTime z h t).flags = (breakTime z h' t).flags := by
  have e1 : ∀ t, (breakTimeCore z h t).val.1 = (breakTimeCore z h' t).val.1 := fun t =>
    (breakTimeCore_char wf h t).1.trans (breakTimeCore_char wf h' t).1.symm
  have e2 : ∀ t, (breakTimeCore z h t).flags = (breakTimeCore z h' t).flags := fun t =>
    (breakTimeCore_char wf h t).2.trans (breakTimeCore_char wf h' t).2.symm
  unfold breakTime
  simp only [Ck.bind_val, Ck.bind_flags]
  split
  · simp only [Ck.bind_val, Ck.bind_flags, Ck.pure_val, Ck.pure_flags]
    simp only [e2]
    simp only [e1]
    exact ⟨trivial, trivial⟩
  · simp only [e1, e2, and_self]

theorem breakTime_hint_irrelevant (z : Zone) (wf : TableWF z) (h h' : Nat) (t : Int) :
    (breakTime z h t).val.1 = (breakTime z h' t).val.1 :=
  (breakTime_hint wf h h' t).1

theorem yearShift_spec (cs : Fields) (v : Valid cs) (q : Int) :
    Valid (yearShift cs (q * 400)).val ∧
    secNum (yearShift cs (q * 400)).val = secNum cs + q * 12622780800 := by
  have e : (yearShift cs (q * 400)).val =
      (Civil.nSec (cs.y + q * 400) cs.m cs.d cs.hh cs.mm cs.ss).val := rfl
  rw [e]
  have n := nSec_norm (cs.y + q * 400) cs.m cs.d cs.hh cs.mm cs.ss
  obtain ⟨m1, m2, d1, d2, h1, h2, mi1, mi2, s1, s2⟩ := v
  refine ⟨n.valid (by omega) (by omega) (by omega), ?_⟩
  rw [n.secNum, monthDay_of_range _ _ _ m1 m2, show cs.y + q * 400 = cs.y + 400 * q by omega,
    dayNum_add_400_mul]
  unfold secNum
  omega

end Cctz.Tl
