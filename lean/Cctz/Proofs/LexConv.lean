/-
  C08Lex helper proofs: the conversion reader `Lex.conv` case by case.
-/
import Cctz.Spec.FormatLex

namespace Cctz.Lx
open Cctz Cctz.Bytes Cctz.Format Cctz.Spec Cctz.Spec.Lex

theorem conv_length (s : Bytes) (c : Conv) (r : Bytes) (h : conv s = some (c, r)) : r.length < s.length := by
  unfold conv at h
  split at h
  all_goals (try simp at h)
  all_goals (try (obtain ⟨_, rfl⟩ := h; simp only [List.length_cons]; omega))
  · obtain ⟨_, h⟩ := h
    have hl : ((spanDigits ‹_›).snd).length ≤ (‹List UInt8› : List UInt8).length := by
      simp only [spanDigits]; exact (List.dropWhile_sublist _).length_le
    split at h
    · next heq => simp at h; obtain ⟨_, rfl⟩ := h; rw [heq] at hl; simp only [List.length_cons] at hl ⊢; omega
    · next heq => simp at h; obtain ⟨_, rfl⟩ := h; rw [heq] at hl; simp only [List.length_cons] at hl ⊢; omega
    · simp at h
  · obtain ⟨_, _, rfl⟩ := h; simp only [List.length_cons]; omega

/-- the `%E<digits>` reader -/
def convDig (r : Bytes) : Option (Conv × Bytes) :=
  if r.takeWhile isDigit ≠ [] ∧ digitsVal (r.takeWhile isDigit) ≤ 1024 then
    match r.dropWhile isDigit with
    | 83 :: r'' => some (.eDigS (digitsVal (r.takeWhile isDigit)), r'')
    | 102 :: r'' => some (.eDigF (digitsVal (r.takeWhile isDigit)), r'')
    | _ => none
  else none

theorem conv_nil : conv [] = none := rfl
theorem conv_nul (r : Bytes) : conv (0 :: r) = some (.nul, r) := rfl

/-! ### the reader as a decision tree on the next bytes

The tests are on `headD 0`, the way the model reads the NUL-terminated format string; none of the
bytes tested for is 0, so a test that succeeds also says that the byte is there. -/

def convColon (r : Bytes) : Option (Conv × Bytes) :=
  if r.headD 0 = 122 then some (.colonZ 1, r.tail)
  else if r.headD 0 = 58 ∧ r.tail.headD 0 = 122 then some (.colonZ 2, r.tail.tail)
  else if r.headD 0 = 58 ∧ r.tail.headD 0 = 58 ∧ r.tail.tail.headD 0 = 122 then
    some (.colonZ 3, r.tail.tail.tail)
  else none

def convE (r : Bytes) : Option (Conv × Bytes) :=
  if r.headD 0 = 84 then some (.eT, r.tail)
  else if r.headD 0 = 122 then some (.eZ, r.tail)
  else if r.headD 0 = 42 ∧ r.tail.headD 0 = 122 then some (.eStarZ, r.tail.tail)
  else if r.headD 0 = 42 ∧ r.tail.headD 0 = 83 then some (.eStarS, r.tail.tail)
  else if r.headD 0 = 42 ∧ r.tail.headD 0 = 102 then some (.eStarF, r.tail.tail)
  else if r.headD 0 = 52 ∧ r.tail.headD 0 = 89 then some (.e4Y, r.tail.tail)
  else convDig r

theorem cons_of_headD {r : Bytes} {v : UInt8} (h : r.headD 0 = v) (hv : v ≠ 0) : r = v :: r.tail := by
  cases r with
  | nil => exact absurd h.symm hv
  | cons a r => exact congrArg (· :: r) h

theorem cons2_of_headD {r : Bytes} {v w : UInt8} (h : r.headD 0 = v ∧ r.tail.headD 0 = w) (hv : v ≠ 0)
    (hw : w ≠ 0) : r = v :: w :: r.tail.tail :=
  (cons_of_headD h.1 hv).trans (congrArg (v :: ·) (cons_of_headD h.2 hw))

theorem conv_cons (c : UInt8) (r : Bytes) : conv (c :: r) =
    if c = 0 then some (.nul, r) else if c = 58 then convColon r else if c = 69 then convE r
    else if c ∈ simpleSet then some (.simple c, r) else none := by
  unfold conv
  split
  case h_1 heq => cases heq
  case h_12 r' x1 x2 x3 x4 x5 x6 heq =>
    obtain ⟨rfl, rfl⟩ := List.cons.inj heq
    show _ = convE r
    unfold convE
    rw [if_neg fun h => x1 _ (cons_of_headD h (by decide)), if_neg fun h => x2 _ (cons_of_headD h (by decide)),
      if_neg fun h => x3 _ (cons2_of_headD h (by decide) (by decide)),
      if_neg fun h => x4 _ (cons2_of_headD h (by decide) (by decide)),
      if_neg fun h => x5 _ (cons2_of_headD h (by decide) (by decide)),
      if_neg fun h => x6 _ (cons2_of_headD h (by decide) (by decide))]
    rfl
  case h_13 c' r' x0 y1 y2 y3 _ _ _ _ _ _ x69 heq =>
    obtain ⟨rfl, rfl⟩ := List.cons.inj heq
    rw [if_neg x0, if_neg x69]
    by_cases h58 : c = 58
    · subst h58
      unfold convColon
      rw [if_neg (show (58 : UInt8) ∉ simpleSet by decide), if_pos rfl,
        if_neg fun h => y1 _ rfl (cons_of_headD h (by decide)),
        if_neg fun h => y2 _ rfl (cons2_of_headD h (by decide) (by decide)),
        if_neg fun h => y3 _ rfl ((cons2_of_headD ⟨h.1, h.2.1⟩ (by decide) (by decide)).trans
          (congrArg (fun z => 58 :: 58 :: z) (cons_of_headD h.2.2 (by decide))))]
    · rw [if_neg h58]
  -- the patterns that spell a conversion out
  all_goals
    next heq => obtain ⟨rfl, rfl⟩ := List.cons.inj heq; rfl

theorem conv_c1 (r : Bytes) : conv (58 :: 122 :: r) = some (.colonZ 1, r) := rfl
theorem conv_c2 (r : Bytes) : conv (58 :: 58 :: 122 :: r) = some (.colonZ 2, r) := rfl
theorem conv_c3 (r : Bytes) : conv (58 :: 58 :: 58 :: 122 :: r) = some (.colonZ 3, r) := rfl
theorem conv_eT (r : Bytes) : conv (69 :: 84 :: r) = some (.eT, r) := rfl
theorem conv_eZ (r : Bytes) : conv (69 :: 122 :: r) = some (.eZ, r) := rfl
theorem conv_eStarZ (r : Bytes) : conv (69 :: 42 :: 122 :: r) = some (.eStarZ, r) := rfl
theorem conv_eStarS (r : Bytes) : conv (69 :: 42 :: 83 :: r) = some (.eStarS, r) := rfl
theorem conv_eStarF (r : Bytes) : conv (69 :: 42 :: 102 :: r) = some (.eStarF, r) := rfl
theorem conv_e4Y (r : Bytes) : conv (69 :: 52 :: 89 :: r) = some (.e4Y, r) := rfl

theorem conv_E (r : Bytes) (h1 : r.headD 0 ≠ 84) (h2 : r.headD 0 ≠ 122)
    (h3 : ¬ (r.headD 0 = 42 ∧ (r.tail.headD 0 = 122 ∨ r.tail.headD 0 = 83 ∨ r.tail.headD 0 = 102)))
    (h4 : ¬ (r.headD 0 = 52 ∧ r.tail.headD 0 = 89)) :
    conv (69 :: r) = convDig r := by
  rw [conv_cons, if_neg (by decide), if_neg (by decide), if_pos rfl, convE, if_neg h1, if_neg h2,
    if_neg fun h => h3 ⟨h.1, Or.inl h.2⟩, if_neg fun h => h3 ⟨h.1, Or.inr (Or.inl h.2)⟩,
    if_neg fun h => h3 ⟨h.1, Or.inr (Or.inr h.2)⟩, if_neg h4]

theorem convDig_none_of_not_digit (r : Bytes) (h : isDigit (r.headD 0) = false) : convDig r = none := by
  have : r.takeWhile isDigit = [] := by
    cases r with
    | nil => rfl
    | cons a r => simp only [List.headD_cons] at h; simp [List.takeWhile, h]
  simp [convDig, this]

theorem convDig_none_of_width (r : Bytes)
    (h : ¬ (r.takeWhile isDigit ≠ [] ∧ digitsVal (r.takeWhile isDigit) ≤ 1024)) : convDig r = none := by
  unfold convDig
  rw [if_neg h]

theorem convDig_S (r r'' : Bytes) (h1 : r.takeWhile isDigit ≠ []) (h2 : digitsVal (r.takeWhile isDigit) ≤ 1024)
    (h3 : r.dropWhile isDigit = 83 :: r'') :
    convDig r = some (.eDigS (digitsVal (r.takeWhile isDigit)), r'') := by
  unfold convDig
  rw [if_pos ⟨h1, h2⟩, h3]
  rfl

theorem convDig_F (r r'' : Bytes) (h1 : r.takeWhile isDigit ≠ []) (h2 : digitsVal (r.takeWhile isDigit) ≤ 1024)
    (h3 : r.dropWhile isDigit = 102 :: r'') :
    convDig r = some (.eDigF (digitsVal (r.takeWhile isDigit)), r'') := by
  unfold convDig
  rw [if_pos ⟨h1, h2⟩, h3]
  rfl

theorem convDig_none_of_tail (r : Bytes) (h1 : (r.dropWhile isDigit).headD 0 ≠ 83)
    (h2 : (r.dropWhile isDigit).headD 0 ≠ 102) : convDig r = none := by
  unfold convDig
  split
  · split
    · next heq => rw [heq] at h1; simp at h1
    · next heq => rw [heq] at h2; simp at h2
    · rfl
  · rfl

end Cctz.Lx
