/-
  `ParseInt`: the digit loop reads a decimal numeral (soundness), and reads back every numeral
  whose value fits (completeness).
-/
import Cctz.Proofs.PaNum

namespace Cctz.Pa
open Cctz Cctz.Bytes Cctz.Format Cctz.Parse Cctz.Spec

theorem digitLoop_nil (kmin v w : Int) (any : Bool) :
    digitLoop kmin [] v w any = ([], v, any, false) := by
  rw [digitLoop]

theorem digitLoop_nondigit (kmin v w : Int) (any : Bool) (c : UInt8) (rest : Bytes)
    (h : isDigit c = false) : digitLoop kmin (c :: rest) v w any = (c :: rest, v, any, false) := by
  rw [digitLoop]; simp [h]

/-- what the loop does on a digit -/
theorem digitLoop_digit (kmin v w : Int) (any : Bool) (c : UInt8) (rest : Bytes)
    (h : isDigit c = true) : digitLoop kmin (c :: rest) v w any =
      if v < cdiv kmin 10 then (c :: rest, v, any, true)
      else if v * 10 < kmin + ((c.toNat : Int) - 48) then (c :: rest, v * 10, any, true)
      else if w > 0 ∧ w - 1 = 0 then (rest, v * 10 - ((c.toNat : Int) - 48), true, false)
      else digitLoop kmin rest (v * 10 - ((c.toNat : Int) - 48)) (if w > 0 then w - 1 else w) true := by
  rw [digitLoop]; simp only [h, if_true]

theorem headD_nondigit_cases (rest : Bytes) (h : isDigit (rest.headD 0) = false) :
    rest = [] ∨ ∃ c r, rest = c :: r ∧ isDigit c = false := by
  cases rest with
  | nil => exact Or.inl rfl
  | cons c r => exact Or.inr ⟨c, r, rfl, by simpa using h⟩

/-- soundness of the digit loop: without `erange` the result is minus the value of the digits
consumed, never below `kmin`; at most `w` digits are consumed when `w > 0` -/
theorem digitLoop_sound (kmin : Int) :
    ∀ (l : Bytes) (v w : Int) (any : Bool), kmin ≤ v → v ≤ 0 →
      (digitLoop kmin l v w any).2.2.2 = false →
      ∃ ds, l = ds ++ (digitLoop kmin l v w any).1 ∧ (∀ c ∈ ds, isDigit c = true) ∧
        (digitLoop kmin l v w any).2.1 = -(nv (-v) ds) ∧
        kmin ≤ (digitLoop kmin l v w any).2.1 ∧ (digitLoop kmin l v w any).2.1 ≤ 0 ∧
        (digitLoop kmin l v w any).2.2.1 = (any || !ds.isEmpty) ∧
        (w > 0 → (ds.length : Int) ≤ w) := by
  intro l
  induction l with
  | nil =>
    intro v w any h1 h2 _
    refine ⟨[], ?_⟩
    simp [digitLoop_nil, h1, h2]
    omega
  | cons c rest ih =>
    intro v w any h1 h2
    by_cases hc : isDigit c = true
    · rw [digitLoop_digit _ _ _ _ _ _ hc]
      have hd := (isDigit_iff c).mp hc
      split
      · simp
      split
      · simp
      split
      · rename_i hw
        intro _
        refine ⟨[c], ?_⟩
        simp [hc, dstep]
        omega
      · rename_i h3 h4 hw
        intro he
        obtain ⟨ds, e1, e2, e3, e4, e5, e6, e7⟩ := ih (v * 10 - ((c.toNat : Int) - 48))
          (if w > 0 then w - 1 else w) true (by omega) (by omega) he
        refine ⟨c :: ds, ?_, ?_, ?_, e4, e5, ?_, ?_⟩
        · rw [List.cons_append, ← e1]
        · intro x hx; simp only [List.mem_cons] at hx
          rcases hx with hx | hx
          · subst hx; exact hc
          · exact e2 x hx
        · rw [e3, nv_cons]
          have : dstep (-v) c = -(v * 10 - ((c.toNat : Int) - 48)) := by unfold dstep; omega
          rw [this]
        · rw [e6]; simp
        · intro hw'
          have := e7
          simp only [hw', if_true] at this
          simp only [List.length_cons]
          have h5 : w - 1 > 0 := by omega
          have := this h5
          omega
    · have hc' : isDigit c = false := by simpa using hc
      rw [digitLoop_nondigit _ _ _ _ _ _ hc']
      intro _
      refine ⟨[], ?_⟩
      simp [h1, h2]
      omega

/-- completeness with unlimited width: a numeral whose value does not pass `-kmin`, followed by
a non-digit, is read completely -/
theorem digitLoop_complete (kmin : Int) (hk : kmin < 0) (rest : Bytes)
    (hrest : isDigit (rest.headD 0) = false) :
    ∀ (ds : Bytes) (v w : Int) (any : Bool), (∀ c ∈ ds, isDigit c = true) → w ≤ 0 → v ≤ 0 →
      nv (-v) ds ≤ -kmin →
      digitLoop kmin (ds ++ rest) v w any = (rest, -(nv (-v) ds), any || !ds.isEmpty, false) := by
  intro ds
  induction ds with
  | nil =>
    intro v w any _ _ _ _
    rcases headD_nondigit_cases rest hrest with h | ⟨c, r, h, hc⟩
    · subst h; simp [digitLoop_nil]
    · subst h; simp [digitLoop_nondigit _ _ _ _ _ _ hc]
  | cons c ds ih =>
    intro v w any hd hw hv hn
    have hc : isDigit c = true := hd c (by simp)
    have hds : ∀ x ∈ ds, isDigit x = true := fun x hx => hd x (by simp [hx])
    have hcb := dstep_bounds (-v) c hc
    simp only [nv_cons] at hn ⊢
    have hge := nv_ge ds (dstep (-v) c) (by omega) hds
    rw [List.cons_append, digitLoop_digit _ _ _ _ _ _ hc]
    have e : v * 10 - ((c.toNat : Int) - 48) = -(dstep (-v) c) := by unfold dstep; omega
    have h1 : ¬ v < cdiv kmin 10 := by
      rw [cdiv_eq _ 10]
      simp only [show ¬ (0 ≤ kmin) by omega, if_false]
      omega
    have h2 : ¬ v * 10 < kmin + ((c.toNat : Int) - 48) := by
      have hdef : dstep (-v) c = -v * 10 + ((c.toNat : Int) - 48) := rfl
      omega
    have h3 : ¬ (w > 0 ∧ w - 1 = 0) := by omega
    have h4 : ¬ w > 0 := by omega
    simp only [h1, h2, h4, if_false, false_and]
    rw [e, ih (-(dstep (-v) c)) w true hds hw (by omega) (by simpa using hn)]
    simp


/-- `parseInt` with the tuples spelled with projections -/
theorem parseInt_eq (kmin : Int) (dp : Bytes) (width min max : Int) :
    parseInt kmin dp width min max =
      (let p : Bool × Bytes × Int × Bool :=
        if peek dp = 45 then
          if width ≤ 0 ∨ width - 1 ≠ 0 then (true, dp.drop 1, (if width ≤ 0 then width else width - 1), false)
          else (true, dp, width - 1, true)
        else (false, dp, width, false)
      if p.2.2.2 then none else
      let r := digitLoop kmin p.2.1 0 p.2.2.1 false
      if r.2.2.1 ∧ !r.2.2.2 ∧ (p.1 ∨ r.2.1 ≠ kmin) then
        if !p.1 ∨ r.2.1 ≠ 0 then
          let v := if !p.1 then -r.2.1 else r.2.1
          if min ≤ v ∧ v ≤ max then some (r.1, v) else none
        else none
      else none) := rfl

theorem parseInt_dead (kmin : Int) (dp : Bytes) (width min max : Int) (h : peek dp = 45)
    (hw : ¬ (width ≤ 0 ∨ width - 1 ≠ 0)) : parseInt kmin dp width min max = none := by
  rw [parseInt_eq]; simp only [h, hw, if_true, if_false]

theorem parseInt_neg (kmin : Int) (dp : Bytes) (width min max : Int) (h : peek dp = 45)
    (hw : width ≤ 0 ∨ width - 1 ≠ 0) (rest : Bytes) (v : Int) :
    parseInt kmin dp width min max = some (rest, v) ↔
      ((digitLoop kmin (dp.drop 1) 0 (if width ≤ 0 then width else width - 1) false).2.2.1 = true ∧
       (digitLoop kmin (dp.drop 1) 0 (if width ≤ 0 then width else width - 1) false).2.2.2 = false ∧
       v ≠ 0 ∧ min ≤ v ∧ v ≤ max ∧
       (digitLoop kmin (dp.drop 1) 0 (if width ≤ 0 then width else width - 1) false).1 = rest ∧
       (digitLoop kmin (dp.drop 1) 0 (if width ≤ 0 then width else width - 1) false).2.1 = v) := by
  rw [parseInt_eq]; simp only [h, hw, if_true]
  generalize (if width ≤ 0 then width else width - 1) = w1
  generalize digitLoop kmin (List.drop 1 dp) 0 w1 false = r
  simp only [Bool.false_eq_true, if_false, Bool.not_true, true_or, and_true, false_or,
    Bool.not_eq_true']
  constructor
  · intro h
    split at h
    · split at h
      · split at h
        · simp only [Option.some.injEq, Prod.mk.injEq] at h
          rw [← h.2]; simp_all
        · simp at h
      · simp at h
    · simp at h
  · intro ⟨h1, h2, h3, h4, h5, h6, h7⟩
    subst h7
    simp [h1, h2, h3, h4, h5, h6]

theorem parseInt_pos (kmin : Int) (dp : Bytes) (width min max : Int) (h : peek dp ≠ 45)
    (rest : Bytes) (v : Int) :
    parseInt kmin dp width min max = some (rest, v) ↔
      ((digitLoop kmin dp 0 width false).2.2.1 = true ∧
       (digitLoop kmin dp 0 width false).2.2.2 = false ∧
       (digitLoop kmin dp 0 width false).2.1 ≠ kmin ∧ min ≤ v ∧ v ≤ max ∧
       (digitLoop kmin dp 0 width false).1 = rest ∧
       -(digitLoop kmin dp 0 width false).2.1 = v) := by
  rw [parseInt_eq]; simp only [h, if_false]
  generalize digitLoop kmin dp 0 width false = r
  simp only [Bool.false_eq_true, if_false, Bool.not_false, true_or, if_true, false_or,
    Bool.not_eq_true']
  constructor
  · intro h
    split at h
    · split at h
      · simp only [Option.some.injEq, Prod.mk.injEq] at h
        rw [← h.2]; simp_all
      · simp at h
    · simp at h
  · intro ⟨h1, h2, h3, h4, h5, h6, h7⟩
    subst h7
    simp [h1, h2, h3, h4, h5, h6]

theorem peek_eq_cons (dp : Bytes) (c : UInt8) (hc : c ≠ 0) (h : peek dp = c) : ∃ r, dp = c :: r := by
  cases dp with
  | nil => exact absurd h.symm hc
  | cons a r => exact ⟨r, congrArg (· :: r) h⟩

/-- the result range alone (no digit reasoning) -/
theorem parseInt_range (kmin : Int) (dp rest : Bytes) (width min max v : Int)
    (h : parseInt kmin dp width min max = some (rest, v)) : min ≤ v ∧ v ≤ max := by
  by_cases hp : peek dp = 45
  · by_cases hw : width ≤ 0 ∨ width - 1 ≠ 0
    · rw [parseInt_neg _ _ _ _ _ hp hw] at h
      exact ⟨h.2.2.2.1, h.2.2.2.2.1⟩
    · rw [parseInt_dead _ _ _ _ _ hp hw] at h; simp at h
  · rw [parseInt_pos _ _ _ _ _ hp] at h
    exact ⟨h.2.2.2.1, h.2.2.2.2.1⟩

/-- soundness of `parseInt` (the corrected form of `C09.parseInt_statement`: `kmin ≤ v`, with
equality only after a '-') -/
theorem parseInt_sound (kmin : Int) (dp rest : Bytes) (width min max v : Int) (hk : kmin < 0)
    (h : parseInt kmin dp width min max = some (rest, v)) :
    min ≤ v ∧ v ≤ max ∧ kmin ≤ v ∧ (v = kmin → dp.headD 0 = 45) ∧ v ≤ -(kmin + 1) ∧
    ∃ used : Bytes, dp = used ++ rest ∧ used ≠ [] ∧ (width > 0 → (used.length : Int) ≤ width) ∧
      ((∃ ds, used = ds ∧ ds ≠ [] ∧ (∀ c ∈ ds, isDigit c = true) ∧ v = numVal ds) ∨
       (∃ ds, used = 45 :: ds ∧ ds ≠ [] ∧ (∀ c ∈ ds, isDigit c = true) ∧ v = -numVal ds ∧ v ≠ 0)) := by
  have hr := parseInt_range _ _ _ _ _ _ _ h
  refine ⟨hr.1, hr.2, ?_⟩
  by_cases hp : peek dp = 45
  · by_cases hw : width ≤ 0 ∨ width - 1 ≠ 0
    · rw [parseInt_neg _ _ _ _ _ hp hw] at h
      obtain ⟨hany, her, hv0, _, _, hrest, hval⟩ := h
      obtain ⟨r, hdp⟩ := peek_eq_cons dp 45 (by decide) hp
      subst hdp
      simp only [List.drop_succ_cons, List.drop_zero] at hany her hrest hval
      obtain ⟨ds, e1, e2, e3, e4, e5, e6, e7⟩ := digitLoop_sound kmin r 0
        (if width ≤ 0 then width else width - 1) false (by omega) (by omega) her
      rw [hrest] at e1; rw [hval] at e3 e4 e5
      rw [hany] at e6
      have hne : ds ≠ [] := by intro h0; subst h0; simp at e6
      simp only [Int.neg_zero] at e3
      refine ⟨e4, fun _ => by simp, by omega, 45 :: ds, by rw [e1]; rfl, by simp, ?_, ?_⟩
      · intro hw'
        have h1 : ¬ width ≤ 0 := by omega
        simp only [h1, if_false] at e7
        have := e7 (by omega)
        simp only [List.length_cons]; omega
      · right
        exact ⟨ds, rfl, hne, e2, by rw [e3]; rfl, hv0⟩
    · rw [parseInt_dead _ _ _ _ _ hp hw] at h; simp at h
  · rw [parseInt_pos _ _ _ _ _ hp] at h
    obtain ⟨hany, her, hk', _, _, hrest, hval⟩ := h
    obtain ⟨ds, e1, e2, e3, e4, e5, e6, e7⟩ := digitLoop_sound kmin dp 0 width false
      (by omega) (by omega) her
    rw [hrest] at e1
    rw [hany] at e6
    have hne : ds ≠ [] := by intro h0; subst h0; simp at e6
    simp only [Int.neg_zero] at e3
    have hv : v = nv 0 ds := by rw [← hval, e3]; omega
    refine ⟨by omega, ?_, by omega, ds, e1, hne, e7, Or.inl ⟨ds, rfl, hne, e2, hv⟩⟩
    intro hvk
    have := nv_nonneg ds 0 (by omega) e2
    omega


/-! ### reading back what `format64` / `format02d` wrote -/

theorem peek_digit_ne_minus (ds rest : Bytes) (hne : ds ≠ []) (hd : ∀ c ∈ ds, isDigit c = true) :
    peek (ds ++ rest) ≠ 45 := by
  cases ds with
  | nil => exact absurd rfl hne
  | cons c r =>
    have := (isDigit_iff c).mp (hd c (by simp))
    simp only [peek, List.cons_append, List.headD_cons]
    intro h; subst h; simp at this

/-- `parseInt` (unlimited width) reads back a signed decimal whose value fits the type -/
theorem parseInt_decInt (kmin : Int) (hk : kmin < 0) (v min max : Int) (rest : Bytes)
    (hrest : isDigit (rest.headD 0) = false) (h1 : kmin ≤ v) (h2 : v ≤ -(kmin + 1))
    (h3 : min ≤ v) (h4 : v ≤ max) :
    parseInt kmin (decInt v ++ rest) 0 min max = some (rest, v) := by
  have hdig := decNat_digits v.natAbs
  have hne := decNat_ne_nil v.natAbs
  have hnv := nv_decNat v.natAbs
  unfold decInt
  by_cases hv : v < 0
  · simp only [hv, if_true, List.cons_append]
    rw [parseInt_neg _ _ _ _ _ (by simp [peek]) (by omega)]
    simp only [List.drop_succ_cons, List.drop_zero, Int.le_refl, if_true]
    rw [digitLoop_complete kmin hk rest hrest _ 0 0 false hdig (by omega) (by omega)
      (by simp only [Int.neg_zero]; omega)]
    simp only [Int.neg_zero, hnv]
    refine ⟨by simp [hne], trivial, by omega, h3, h4, trivial, by omega⟩
  · simp only [hv, if_false]
    rw [parseInt_pos _ _ _ _ _ (peek_digit_ne_minus _ _ hne hdig)]
    rw [digitLoop_complete kmin hk rest hrest _ 0 0 false hdig (by omega) (by omega)
      (by simp only [Int.neg_zero]; omega)]
    simp only [Int.neg_zero, hnv]
    refine ⟨by simp [hne], trivial, by omega, h3, h4, trivial, by omega⟩

/-- a run of digits that fills the width exactly, or is shorter and followed by no digit, is read
whole (`digitLoop_complete` is the case of unlimited width) -/
theorem digitLoop_digits (kmin : Int) (hk : kmin < 0) (rest : Bytes) :
    ∀ (ds : Bytes) (v w : Int) (any : Bool), (∀ c ∈ ds, isDigit c = true) → ds ≠ [] →
      ((ds.length : Int) = w ∨ ((ds.length : Int) < w ∧ isDigit (rest.headD 0) = false)) → v ≤ 0 →
      nv (-v) ds ≤ -kmin →
      digitLoop kmin (ds ++ rest) v w any = (rest, -(nv (-v) ds), true, false) := by
  intro ds
  induction ds with
  | nil => intro v w any _ h; exact absurd rfl h
  | cons c ds ih =>
    intro v w any hd _ hw hv hn
    have hc : isDigit c = true := hd c (by simp)
    have hds : ∀ x ∈ ds, isDigit x = true := fun x hx => hd x (by simp [hx])
    have hcb := dstep_bounds (-v) c hc
    simp only [nv_cons] at hn ⊢
    have hge := nv_ge ds (dstep (-v) c) (by omega) hds
    have e : v * 10 - ((c.toNat : Int) - 48) = -(dstep (-v) c) := by unfold dstep; omega
    have h1 : ¬ v < cdiv kmin 10 := by
      rw [cdiv_eq _ 10, if_neg (by omega)]
      omega
    have h2 : ¬ v * 10 < kmin + ((c.toNat : Int) - 48) := by
      have hdef : dstep (-v) c = -v * 10 + ((c.toNat : Int) - 48) := rfl
      omega
    rw [List.cons_append, digitLoop_digit _ _ _ _ _ _ hc, if_neg h1, if_neg h2, e]
    simp only [List.length_cons] at hw
    by_cases hnil : ds = []
    · subst hnil
      simp only [List.length_nil] at hw
      rcases hw with hw | ⟨hw, hr⟩
      · rw [if_pos (by omega)]; rfl
      · rw [if_neg (by omega), List.nil_append]
        rcases headD_nondigit_cases rest hr with h | ⟨c', r, h, hc'⟩
        · subst h; rw [digitLoop_nil]; rfl
        · subst h; rw [digitLoop_nondigit _ _ _ _ _ _ hc']; rfl
    · have hl : 0 < ds.length := List.length_pos_iff.2 hnil
      rw [if_neg (by omega), if_pos (by omega)]
      have hw' : (ds.length : Int) = w - 1 ∨ ((ds.length : Int) < w - 1 ∧ isDigit (rest.headD 0) = false) :=
        hw.imp (fun h => by omega) (fun h => ⟨by omega, h.2⟩)
      have := ih (-(dstep (-v) c)) (w - 1) true hds hnil hw' (by omega) (by simpa using hn)
      rwa [Int.neg_neg] at this

theorem parseInt_digits (kmin : Int) (hk : kmin < 0) (ds rest : Bytes) (w lo hi : Int)
    (hd : ∀ c ∈ ds, isDigit c = true) (hne : ds ≠ [])
    (hw : (ds.length : Int) = w ∨ ((ds.length : Int) < w ∧ isDigit (rest.headD 0) = false))
    (hv : nv 0 ds < -kmin) (h1 : lo ≤ nv 0 ds) (h2 : nv 0 ds ≤ hi) :
    parseInt kmin (ds ++ rest) w lo hi = some (rest, nv 0 ds) := by
  rw [parseInt_pos _ _ _ _ _ (peek_digit_ne_minus _ _ hne hd),
    digitLoop_digits kmin hk rest ds 0 w false hd hne hw (by omega) (by simp only [Int.neg_zero]; omega)]
  simp only [Int.neg_zero]
  exact ⟨trivial, trivial, by omega, h1, h2, trivial, by omega⟩

theorem parseInt64_format64 (v : Int) (rest : Bytes) (hv : inI64 v)
    (hrest : isDigit (rest.headD 0) = false) :
    parseInt64 (format64 0 v ++ rest) 0 i64min i64max = some (rest, v) := by
  rw [Fm.format64_zero]
  unfold inI64 at hv
  have a : i64min = -9223372036854775808 := rfl
  have b : i64max = 9223372036854775807 := rfl
  exact parseInt_decInt i64min (by decide) v _ _ rest hrest hv.1 (by omega) hv.1 hv.2

theorem format02d_val (v : Int) (h0 : 0 ≤ v) (h1 : v ≤ 99) :
    (format02d v).val = [dch (v / 10).toNat, dch (v % 10).toNat] := by
  have e1 : cmod (cdiv v 10) 10 = v / 10 := by
    rw [cdiv_eq _ 10, cmod_eq _ 10]
    simp only [h0, if_true]; rw [if_pos (by omega)]; omega
  have e2 : cmod v 10 = v % 10 := by
    rw [cmod_eq _ 10]; simp only [h0, if_true]
  unfold format02d
  simp only [Ck.bind_val, Ck.pure_val, e1, e2]
  have a1 : 0 ≤ v / 10 ∧ v / 10 ≤ 9 := by omega
  have a2 : 0 ≤ v % 10 ∧ v % 10 ≤ 9 := by omega
  simp only [digitChar, a1, a2, and_self, if_true, Ck.pure_val, dch]

theorem parseInt32_format02d (v lo hi : Int) (rest : Bytes) (h0 : 0 ≤ v) (h1 : v ≤ 99)
    (h2 : lo ≤ v) (h3 : v ≤ hi) :
    parseInt32 ((format02d v).val ++ rest) 2 lo hi = some (rest, v) := by
  rw [format02d_val v h0 h1]
  generalize hx' : (v / 10).toNat = x
  generalize hy' : (v % 10).toNat = y
  have hx : x < 10 := by omega
  have hy : y < 10 := by omega
  have hd : ∀ c ∈ [dch x, dch y], isDigit c = true := by
    intro c hc
    rcases List.mem_cons.1 hc with rfl | hc
    · exact dch_isDigit x hx
    · rw [List.mem_singleton.1 hc]; exact dch_isDigit y hy
  have hv : nv 0 [dch x, dch y] = v := by
    simp only [nv_cons, nv_nil]; rw [dstep_dch _ _ hx, dstep_dch _ _ hy]; omega
  have := parseInt_digits i32min (by decide) [dch x, dch y] rest 2 lo hi hd (List.cons_ne_nil _ _) (Or.inl rfl)
    (by rw [hv]; unfold i32min; omega) (by rw [hv]; exact h2) (by rw [hv]; exact h3)
  rwa [hv] at this

end Cctz.Pa
