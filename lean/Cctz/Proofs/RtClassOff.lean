/-
  C07Class helper proofs, parse side: the offsets (%E*z %::z in full, %:::z as short as possible,
  %Ez %:z %z without the seconds) and the four-character year (%E4Y).
-/
import Cctz.Proofs.RtClassText
import Cctz.Proofs.RtClassStep
import Cctz.Proofs.RtClassState

namespace Cctz.Rtc
open Cctz Cctz.Bytes Cctz.Format Cctz.Parse Cctz.Spec Cctz.Spec.Lex Cctz.Pa Cctz.Wr Cctz.Rt

/-! ### `ParseInt` fails on a text that does not begin with a digit (lower bound ≥ 0) -/

theorem parseInt_none_of_nondigit (kmin : Int) (hk : kmin < 0) (x : Bytes) (w lo hi : Int) (hlo : 0 ≤ lo)
    (h : isDigit (x.headD 0) = false) : parseInt kmin x w lo hi = none := by
  cases hp : parseInt kmin x w lo hi with
  | none => rfl
  | some p =>
    exfalso
    obtain ⟨rest, v⟩ := p
    by_cases h45 : peek x = 45
    · by_cases hw : w ≤ 0 ∨ w - 1 ≠ 0
      · obtain ⟨_, e2, e3, e4, _, _, e7⟩ := (parseInt_neg kmin x w lo hi h45 hw rest v).1 hp
        obtain ⟨ds, _, _, hval, _, hle, _, _⟩ := digitLoop_sound kmin (x.drop 1) 0
          (if w ≤ 0 then w else w - 1) false (by omega) (by omega) e2
        omega
      · rw [parseInt_dead kmin x w lo hi h45 hw] at hp; cases hp
    · obtain ⟨e1, _⟩ := (parseInt_pos kmin x w lo hi h45 rest v).1 hp
      rcases headD_nondigit_cases x h with hx | ⟨c, r, hx, hc⟩
      · subst hx; rw [digitLoop_nil] at e1; cases e1
      · subst hx; rw [digitLoop_nondigit _ _ _ _ _ _ hc] at e1; cases e1

/-! ### `ParseOffset` on ±hh:mm, ±hhmm, ±hh -/

theorem parseInt32_two (n : Nat) (lo hi : Int) (tl : Bytes) (hn : n ≤ 99) (h1 : lo ≤ n) (h2 : (n : Int) ≤ hi) :
    parseInt32 (decPad 2 n ++ tl) 2 lo hi = some (tl, (n : Int)) := by
  obtain ⟨hl, hv⟩ := decPad_props 2 n (by decide) (by omega)
  rw [← hv]
  exact parseInt_digits i32min (by decide) _ tl 2 lo hi (allDigits_decPad 2 n) (decPad_ne_nil 2 n)
    (Or.inl (by rw [hl]; rfl)) (by rw [hv]; unfold i32min; omega) (by rw [hv]; exact h1) (by rw [hv]; exact h2)

theorem parseOffset_hm (sep : Bool) (sign : UInt8) (hs : sign = 43 ∨ sign = 45) (H M : Nat) (hH : H ≤ 23)
    (hM : M ≤ 59) (rest : Bytes) (hr1 : isDigit (rest.headD 0) = false) (hr2 : sep = true → rest.headD 0 ≠ 58) :
    parseOffset ([sign] ++ decPad 2 H ++ (if sep then [58] else []) ++ decPad 2 M ++ rest) (if sep then 58 else 0) =
      some (rest, if sign = 45 then -(((H : Int) * 60 + M) * 60) else ((H : Int) * 60 + M) * 60) := by
  have pH := fun tl => parseInt32_two H 0 23 tl (by omega) (by omega) (by omega)
  have pM := parseInt32_two M 0 59 rest (by omega) (by omega) (by omega)
  have lH := Fm.decPad_length_of_lt 2 H (by decide) (by omega)
  have lM := Fm.decPad_length_of_lt 2 M (by decide) (by omega)
  have pS : parseInt32 rest 2 0 59 = none :=
    parseInt_none_of_nondigit i32min (by decide) rest 2 0 59 (by omega) hr1
  cases sep with
  | false =>
    simp [parseOffset, Gen.parseOff_hours, Gen.parseOff_minutes, Gen.parseOff_seconds, peek, hs, pH, pM, pS, lH, lM]
  | true =>
    have hr2' : ¬ (List.head? rest).getD 0 = 58 := by
      rw [← List.headD_eq_head?_getD]; exact hr2 rfl
    simp [parseOffset, Gen.parseOff_hours, Gen.parseOff_minutes, Gen.parseOff_seconds, peek, hs, pH, pM, pS, lH, lM,
      hr2']

theorem parseOffset_h (sign : UInt8) (hs : sign = 43 ∨ sign = 45) (H : Nat) (hH : H ≤ 23)
    (rest : Bytes) (hr1 : isDigit (rest.headD 0) = false) (hr2 : rest.headD 0 ≠ 58) :
    parseOffset ([sign] ++ decPad 2 H ++ rest) 58 =
      some (rest, if sign = 45 then -((H : Int) * 60 * 60) else (H : Int) * 60 * 60) := by
  have pH := parseInt32_two H 0 23 rest (by omega) (by omega) (by omega)
  have lH := Fm.decPad_length_of_lt 2 H (by decide) (by omega)
  have pM : parseInt32 rest 2 0 59 = none :=
    parseInt_none_of_nondigit i32min (by decide) rest 2 0 59 (by omega) hr1
  have hr2' : ¬ (List.head? rest).getD 0 = 58 := by
    rw [← List.headD_eq_head?_getD]; exact hr2
  simp [parseOffset, Gen.parseOff_hours, Gen.parseOff_minutes, peek, hs, pH, pM, lH, hr2']

/-! ### the documented offset texts -/

/-- the sign written is '-' exactly for a negative offset (`p`: the magnitude shows as zero), so the
magnitude read comes back as the offset -/
theorem signed_natAbs (off v : Int) (p : Prop) [Decidable p] (hv : v = off.natAbs) (hp : p → off.natAbs = 0) :
    (if (if off < 0 ∧ ¬ p then (45 : UInt8) else 43) = 45 then -v else v) = off := by
  by_cases h : off < 0
  · have hs : (if off < 0 ∧ ¬ p then (45 : UInt8) else 43) = 45 :=
      if_pos ⟨h, fun hp' => by have := hp hp'; omega⟩
    rw [if_pos hs]; omega
  · have hs : (if off < 0 ∧ ¬ p then (45 : UInt8) else 43) = 43 := if_neg (fun h' => h h'.1)
    rw [hs, if_neg (by decide)]; omega

theorem natAbs_whole_minutes (off : Int) (hmin : off % 60 = 0) : off.natAbs % 60 = 0 := by omega

theorem hm_of_whole_minutes (a : Nat) (h : a < 86400) (hs : a % 60 = 0) :
    a / 3600 ≤ 23 ∧ a / 60 % 60 ≤ 59 ∧
    (((a / 3600 : Nat) : Int) * 60 + ((a / 60 % 60 : Nat) : Int)) * 60 = a ∧ (a / 60 = 0 → a = 0) := by
  omega

theorem h_of_whole_hours (a : Nat) (h : a < 86400) (hs : a % 60 = 0) (hm : a / 60 % 60 = 0) :
    a / 3600 ≤ 23 ∧ ((a / 3600 : Nat) : Int) * 60 * 60 = a ∧ (a / 3600 = 0 → a = 0) := by
  omega

theorem parseOffset_offHM (sep : Bool) (off : Int) (hmin : off.natAbs % 60 = 0) (h1 : -86400 < off) (h2 : off < 86400)
    (rest : Bytes) (hr1 : isDigit (rest.headD 0) = false) (hr2 : sep = true → rest.headD 0 ≠ 58) :
    parseOffset (offHM sep off ++ rest) (if sep then 58 else 0) = some (rest, off) := by
  obtain ⟨hH, hM, hv, hz⟩ := hm_of_whole_minutes off.natAbs (by omega) hmin
  unfold offHM
  simp only
  rw [parseOffset_hm sep _ (by split <;> simp) _ _ hH hM rest hr1 hr2, signed_natAbs off _ _ hv hz]

/-- `%:::z`: as short as possible, and still exact for every offset -/
theorem parseOffset_offMin (off : Int) (h1 : -86400 < off) (h2 : off < 86400)
    (rest : Bytes) (hr1 : isDigit (rest.headD 0) = false) (hr2 : rest.headD 0 ≠ 58) :
    parseOffset (offMin off ++ rest) 58 = some (rest, off) := by
  unfold offMin
  simp only
  split
  · rw [offHMS_eq off h1 h2]
    exact parseOffset_formatOffset off rest h1 h2
  · next hs =>
    split
    · exact parseOffset_offHM true off (Decidable.not_not.1 hs) h1 h2 rest hr1 (fun _ => hr2)
    · next hm =>
      obtain ⟨hH, hv, hz⟩ := h_of_whole_hours off.natAbs (by omega) (Decidable.not_not.1 hs)
        (Decidable.not_not.1 hm)
      rw [parseOffset_h _ (by split <;> simp) _ hH rest hr1 hr2]
      exact congrArg (fun v => some (rest, v)) (signed_natAbs off _ (off.natAbs / 3600 = 0) hv hz)

/-! ### `%E4Y` -/

theorem parseInt64_year4 (y : Int) (rest : Bytes) (h1 : -999 ≤ y) (h2 : y ≤ 9999) :
    parseInt64 (year4 y ++ rest) 4 (-999) 9999 = some (rest, y) ∧ (year4 y).length = 4 := by
  unfold year4 parseInt64
  split
  · obtain ⟨hl, hv⟩ := decPad_props 3 y.natAbs (by decide) (by omega)
    refine ⟨?_, by simp [hl]⟩
    rw [List.cons_append, parseInt_neg _ _ _ _ _ (by simp [peek]) (by omega)]
    simp only [List.drop_succ_cons, List.drop_zero]
    rw [if_neg (by omega), digitLoop_digits i64min (by decide) rest _ 0 (4 - 1) false (allDigits_decPad _ _)
      (decPad_ne_nil _ _) (Or.inl (by rw [hl]; rfl)) (by omega)
      (by simp only [Int.neg_zero, hv]; unfold i64min; omega)]
    simp only [Int.neg_zero, hv]
    exact ⟨trivial, trivial, by omega, h1, h2, trivial, by omega⟩
  · obtain ⟨hl, hv⟩ := decPad_props 4 y.natAbs (by decide) (by omega)
    refine ⟨?_, hl⟩
    rw [parseInt_digits i64min (by decide) _ rest 4 (-999) 9999 (allDigits_decPad _ _) (decPad_ne_nil _ _)
      (Or.inl (by rw [hl]; rfl)) (by rw [hv]; unfold i64min; omega) (by omega) (by omega), hv]
    congr 2; omega

variable (sp : Strptime) {al : Tz.AbsLookup} {t fs : Int} (st : PState) (rest f' : Bytes)

theorem reads_offset (E : Env al t fs) (k : CK) (hk : sets (.conv k) .offset = true) (ws : Bool)
    (hf : st.fmt = 37 :: (spellC k ++ f'))
    (hfd : (Item.conv k).noDigitAfter ws = true → isDigit (rest.headD 0) = false)
    (hfc : (Item.conv k).noColonAfter = true → rest.headD 0 ≠ 58)
    (hmin : (Item.conv k).wholeMinutes = true → al.offset % 60 = 0) (hs : Stat fs st) :
    StepOK al t fs (.conv k) st rest f' (stepSpec sp st (renderConv (toConv k) al t fs ++ rest)) := by
  have key : parseOffset (renderConv (toConv k) al t fs ++ rest) (if k = .z then 0 else 58) =
        some (rest, al.offset) ∧ carried (.conv k) = [.offset] := by
    cases k with
    | zStar | zColon =>
      refine ⟨?_, rfl⟩
      rw [show renderConv _ al t fs = offHMS al.offset from rfl, offHMS_eq _ E.off1 E.off2]
      exact parseOffset_formatOffset _ rest E.off1 E.off2
    | zColon3 => exact ⟨parseOffset_offMin _ E.off1 E.off2 rest (hfd rfl) (hfc rfl), rfl⟩
    | zE | zColon1 =>
      exact ⟨parseOffset_offHM true _ (natAbs_whole_minutes _ (hmin rfl)) E.off1 E.off2 rest (hfd rfl) (fun _ => hfc rfl), rfl⟩
    | z => exact ⟨parseOffset_offHM false _ (natAbs_whole_minutes _ (hmin rfl)) E.off1 E.off2 rest (hfd rfl) (fun h => by cases h), rfl⟩
    | _ => cases hk
  rw [stepSpec_offset sp st k hk al.offset _ rest f' hf key.1]
  exact stepOK_put [.offset] key.2 st rest f' hs _ _ _ hs.1 hs.2.1

theorem reads_y4 (hf : st.fmt = 37 :: (spellC .y4 ++ f')) (hy1 : -999 ≤ al.cs.y) (hy2 : al.cs.y ≤ 9999)
    (hs : Stat fs st) :
    StepOK al t fs (.conv .y4) st rest f' (stepSpec sp st (renderConv (toConv .y4) al t fs ++ rest)) := by
  obtain ⟨hp, hl⟩ := parseInt64_year4 al.cs.y rest hy1 hy2
  have hlen : (year4 al.cs.y ++ rest).length - rest.length = 4 := by
    rw [List.length_append, hl]; omega
  rw [show renderConv (toConv .y4) al t fs = year4 al.cs.y from rfl, stepSpec_y4 sp st _ _ rest f' hf hp hlen]
  exact stepOK_put [.year] rfl st rest f' hs _ _ _ hs.1 hs.2.1

end Cctz.Rtc
