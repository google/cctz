/-
  C09Denote — what a successful parse() MEANS (model level; strptime is a parameter).

  C09.lean says which inputs are accepted field by field; this file says what the result of an
  accepted parse is.  Throughout, `st` is the state the specifier loop of `Parse.parse` ends in,

      st := specLoop sp (fmt.length + input.length + 2) { data := some (skipSpace (cstr input)), fmt := cstr fmt }

  (written `final sp fmt input` below), and the vocabulary of Cctz/Proofs/PdDefs.lean is used:

    Pd.adjTm st    `st.tm` after the 12-hour adjustment (`tm_hour += 12` for an afternoon `%I`)
    Pd.yearOf st   `st.year` if a `%Y`/`%E4Y` was seen, else `tm_year + 1900`
    Pd.fieldsOf st the six fields ⟨year, tm_mon + 1, tm_mday, tm_hour, tm_min, min tm_sec 59⟩
    Pd.xOf st      `secNum (fieldsOf st) + (if tm_sec = 60 then 1 else 0)`: the number of the civil
                   second the text denotes, ":60" being the second after hh:mm:59
    Pd.fsOf st     `st.subseconds`, or 0 when `tm_sec = 60`
    Pd.TodOK tm    0 ≤ tm_hour ≤ 23, 0 ≤ tm_min ≤ 59, 0 ≤ tm_sec ≤ 60
    Pd.SpTod sp    strptime never turns an in-range time of day into an out-of-range one
    Pd.TmOK tm     TodOK, 0 ≤ tm_mon ≤ 11, 1 ≤ tm_mday ≤ 31, tm_year an int  (TmOK61: tm_sec ≤ 61;
                   TmLo: no upper bound on tm_sec)
    Pd.SpTm sp     strptime keeps a tm within TmOK
    Pd.weekDate w sundayStart year wday   (year, month, day) FromWeek computes, `none` = returns false
    Pd.IsWeekDay w ws target J D          day D is weekday `target` in week `w` of the year starting
                                          on day J, weeks starting on weekday `ws`

  `Spec.secNum` / `Spec.Valid` are the proleptic Gregorian calendar of Cctz/Spec/Gregorian.lean;
  `Spec.lookupC z C` is the stateless `z.lookup(civil C)` and `Spec.lookupT z t` the stateless
  `z.lookup(time_point t)` (C01/C02/Seam say what they are).

  Seconds (finding F20, "fix: parse() normalized a seconds value of 61 let through by strptime()"):
  parse() compares only month and day after normalisation; hour, minute and second written by
  strptime are not range-checked, except that parse() returns false when tm_sec > 59 after the ":60"
  step.  Without that check glibc's strptime (whose `%S`/`%T`/`%OS` accept 61) made "12:00:61" read
  as 12:01:01, and at the year INT64_MAX the carry overflowed (undefined behaviour); with it both
  inputs are rejected (`seconds_61_rejected`, `seconds_61_no_overflow`).  So a successful parse has
  tm_sec ≤ 60 (`seconds_le_60`), so the seconds part of `TodOK st.tm` follows from success
  (`tod_of_success`), and (5) needs no bound on the seconds (`no_flags_final`).
  The hour/minute part of `TodOK st.tm` is still an assumption about strptime (`date_exists_needs_hm`:
  a strptime storing tm_min = 60 — none does — would be accepted with the minute carried); it holds
  for every format that does not reach strptime and for every strptime that keeps the fields in
  range (`tod_invariant`).
  The week-number path (`%U`/`%W`, `st.weekNum ≠ -1`) is covered by `fromWeek_date`, `week_date` and
  `week_instant`: FromWeek replaces year, month and day by the day of weekday `tm_wday` in that week
  and the rest is as without a week number.  The other statements assume `st.weekNum = -1`
  (`%m`/`%d`/`%e` after a `%U`/`%W` reset it, as in the C++).
-/
import Cctz.Model.Parse
import Cctz.Spec.Gregorian
import Cctz.Spec.TableSem
import Cctz.Spec.TableTame
import Cctz.Proofs.PdTop
import Cctz.Proofs.PdFlags
import Cctz.Proofs.PdWeek
import Cctz.Proofs.TcWitness
import Cctz.Proofs.BytesLemmas

namespace Cctz.C09Denote
open Cctz Cctz.Bytes Cctz.Format Cctz.Parse Cctz.Spec Cctz.Tz Cctz.Pd

/-- the state the specifier loop of `parse sp fmt input _` ends in -/
def final (sp : Strptime) (fmt input : Bytes) : PState :=
  specLoop sp (fmt.length + input.length + 2) { data := some (skipSpace (cstr input)), fmt := cstr fmt }

/-- the loop ended with the whole format used and nothing but white space left of the input -/
def Consumed (st : PState) : Prop := (∃ d, st.data = some d ∧ skipSpace d = []) ∧ st.fmt = []

instance (st : PState) : Decidable (Consumed st) :=
  decidable_of_iff (st.data.map skipSpace = some [] ∧ st.fmt = []) (by
    unfold Consumed; cases st.data <;> simp)

/-! ## Statements -/

/-- (1) parse() returns true only if the whole format was used and the whole input was consumed up
to trailing white space -/
def consumed_statement : Prop :=
  ∀ (sp : Strptime) (fmt input : Bytes) (z : Zone) (t fs : Int),
    (parse sp fmt input z).val.1 = .ok t fs → Consumed (final sp fmt input)

/-- (2) with `%s` everything else is ignored: the instant is the parsed integer, sub-seconds 0 -/
def percent_s_statement : Prop :=
  ∀ (sp : Strptime) (fmt input : Bytes) (z : Zone) (t fs : Int),
    (parse sp fmt input z).val.1 = .ok t fs → (final sp fmt input).sawPercentS = true →
    t = (final sp fmt input).percentS ∧ fs = 0

/-- the time-of-day hypothesis of (3)/(4) holds whenever strptime keeps hour/minute/second in range;
in particular for `fun _ _ _ => none`, i.e. for every format that never reaches strptime -/
def tod_invariant_statement : Prop :=
  ∀ (sp : Strptime) (fmt input : Bytes), SpTod sp → TodOK (final sp fmt input).tm

/-- (3a) the date exists: the fields of a successful parse form a valid civil second — month 1..12,
day ≤ the length of that month in that year, hour ≤ 23, minute, second ≤ 59 (60 shown as 59).
Nothing was normalised. -/
def date_exists_statement : Prop :=
  ∀ (sp : Strptime) (fmt input : Bytes) (z : Zone) (t fs : Int),
    let st := final sp fmt input
    (parse sp fmt input z).val.1 = .ok t fs → st.sawPercentS = false → st.weekNum = -1 → TodOK st.tm →
    Valid (fieldsOf st)

/-- (3b, offset) with a parsed UTC offset the instant is exactly the civil second the fields
denote, read in that offset; it is an int64 value -/
def instant_offset_statement : Prop :=
  ∀ (sp : Strptime) (fmt input : Bytes) (z : Zone) (t fs : Int),
    let st := final sp fmt input
    (parse sp fmt input z).val.1 = .ok t fs → st.sawPercentS = false → st.weekNum = -1 → TodOK st.tm →
    st.sawOffset = true →
    t = xOf st - st.offset ∧ inI64 t ∧ -86400 < st.offset ∧ st.offset < 86400

/-- (3b, zone) without an offset the instant is the `pre` reading of lookup(C) in the supplied
zone, `C` being the (unique) valid civil second numbered `xOf st`.  When that reading is the
saturated max()/min(), the civil second does not lie beyond the one displayed at max()/min(). -/
def instant_zone_statement : Prop :=
  ∀ (sp : Strptime) (fmt input : Bytes) (z : Zone) (t fs : Int),
    let st := final sp fmt input
    (parse sp fmt input z).val.1 = .ok t fs → st.sawPercentS = false → st.weekNum = -1 → TodOK st.tm →
    st.sawOffset = false →
    st.offset = 0 ∧
    ∃ C, Valid C ∧ secNum C = xOf st ∧ t = (lookupC z C).pre ∧
      (t = i64max → Civil.lt (lookupT z i64max).cs C = false) ∧
      (t = i64min → Civil.lt C (lookupT z i64min).cs = false)

/-- (4, zone) the two saturation checks in table terms (tables that are not rule-extended; C01 says
what lookup(max()/min()) shows): max() is returned only for a civil second not after the one shown
at max(), min() only for one not before the one shown at min() -/
def zone_saturation_statement : Prop :=
  ∀ (sp : Strptime) (fmt input : Bytes) (z : Zone) (t fs : Int),
    let st := final sp fmt input
    (parse sp fmt input z).val.1 = .ok t fs → st.sawPercentS = false → st.weekNum = -1 → TodOK st.tm →
    st.sawOffset = false → TableWF z → CivilCols z → z.extended = false →
    (t = i64max → xOf st ≤ i64max + offAt z i64max) ∧ (t = i64min → i64min + offAt z i64min ≤ xOf st)

/-- (3c) the sub-second part: the parsed fraction truncated to femtoseconds, or 0 after ":60" -/
def subseconds_statement : Prop :=
  ∀ (sp : Strptime) (fmt input : Bytes) (z : Zone) (t fs : Int),
    let st := final sp fmt input
    (parse sp fmt input z).val.1 = .ok t fs → st.sawPercentS = false → st.weekNum = -1 →
    fs = fsOf st ∧ 0 ≤ fs ∧ fs < 1000000000000000

/-- (3d) the instant returned in the zone case is an int64 value on tame tables (what `load`
produces, Cctz/Spec/TableTame.lean) when the year read is an int64 -/
def instant_zone_range_statement : Prop :=
  ∀ (sp : Strptime) (fmt input : Bytes) (z : Zone) (t fs : Int),
    let st := final sp fmt input
    (parse sp fmt input z).val.1 = .ok t fs → st.sawPercentS = false → st.weekNum = -1 → TodOK st.tm →
    st.sawOffset = false → Tame z → i64min ≤ yearOf st → inI64 t

/-- (3+4, offset) complete characterisation with a parsed offset: after a loop that consumed
everything, parse() returns true exactly when the date exists and the instant denoted fits int64,
and then returns that instant -/
def offset_complete_statement : Prop :=
  ∀ (sp : Strptime) (fmt input : Bytes) (z : Zone) (t fs : Int),
    let st := final sp fmt input
    Consumed st → st.sawPercentS = false → st.weekNum = -1 → TodOK st.tm → st.sawOffset = true →
    ((parse sp fmt input z).val.1 = .ok t fs ↔
      Valid (fieldsOf st) ∧ inI64 (xOf st - st.offset) ∧ t = xOf st - st.offset ∧ fs = fsOf st)

/-- (4, offset) out of range → false: an existing date whose instant does not fit
time_point<seconds> is rejected — not wrapped, not saturated -/
def out_of_range_statement : Prop :=
  ∀ (sp : Strptime) (fmt input : Bytes) (z : Zone),
    let st := final sp fmt input
    Consumed st → st.sawPercentS = false → st.weekNum = -1 → TodOK st.tm → st.sawOffset = true →
    ¬ inI64 (xOf st - st.offset) → (parse sp fmt input z).val.1 = .fail

/-- (3+4, zone) complete characterisation without an offset: parse() returns true exactly when
the date exists, the civil second denoted is not beyond civil_second::max(), and the `pre` reading
of its lookup is not a saturated value standing for a civil second beyond the one displayed at
max()/min() -/
def zone_complete_statement : Prop :=
  ∀ (sp : Strptime) (fmt input : Bytes) (z : Zone) (t fs : Int),
    let st := final sp fmt input
    Consumed st → st.sawPercentS = false → st.weekNum = -1 → TodOK st.tm → st.sawOffset = false →
    ((parse sp fmt input z).val.1 = .ok t fs ↔
      Valid (fieldsOf st) ∧ xOf st ≤ secNum ⟨i64max, 12, 31, 23, 59, 59⟩ ∧
      ∃ C, Valid C ∧ secNum C = xOf st ∧ t = (lookupC z C).pre ∧ fs = fsOf st ∧
        ¬ (t = i64max ∧ Civil.lt (lookupT z i64max).cs C = true) ∧
        ¬ (t = i64min ∧ Civil.lt C (lookupT z i64min).cs = true))

/-- (3, any strptime) without the time-of-day hypothesis: the fields are normalised by the
civil-second constructor (`Spec.unnormSec`, C04), month and day are unchanged by it, and the
instant is the `pre` reading of the resulting civil second minus the offset, in UTC if an offset
was parsed, else in the supplied zone -/
def instant_general_statement : Prop :=
  ∀ (sp : Strptime) (fmt input : Bytes) (z : Zone) (t fs : Int),
    let st := final sp fmt input
    let tm := adjTm st
    (parse sp fmt input z).val.1 = .ok t fs → st.sawPercentS = false → st.weekNum = -1 →
    ∃ C, Valid C ∧
      secNum C = unnormSec (yearOf st) (tm.mon + 1) tm.mday tm.hour tm.min tm.sec - st.offset ∧
      t = (lookupC (if st.sawOffset then (resetToBuiltinUTC 0).val else z) C).pre ∧
      (st.sawOffset = true → t = secNum C ∧ inI64 t)

/-- (5) no undefined behaviour: no flag is raised — no signed overflow, no out-of-range index, no
unset read, no unbounded loop — for every format and input, on every tame table (`Qo.Tame'`, the
hypothesis of the C10 theorems, decided by `TameCheck.tameFullb`), provided strptime keeps the
fields of `tm` in their POSIX ranges (`Pd.SpTm`: hour ≤ 23, minute ≤ 59, second ≤ 60, month 0..11,
day 1..31, `tm_year` an int).  No bound on the year is needed — every int64 year is safe — and the
week-number path is included.  The bound on the seconds is not needed, thanks to the check of F20
(`no_flags_final`); some condition on strptime still is at model level (`no_flags_needs_SpTm`: a
negative tm_sec); the zone condition is C10's. -/
def no_flags_statement : Prop :=
  ∀ (sp : Strptime) (fmt input : Bytes) (z : Zone), SpTm sp → Qo.Tame' z → (parse sp fmt input z).ok

/-- (5') the same from facts about the final state alone, allowing the seconds value 61 that
glibc's strptime can store (`Pd.TmOK61`), for a year read within ±10^15.  (Subsumed by
`no_flags_final`.) -/
def no_flags_bounded_statement : Prop :=
  ∀ (sp : Strptime) (fmt input : Bytes) (z : Zone),
    let st := final sp fmt input
    Qo.Tame' z → TmOK61 st.tm →
    (st.tm.sec ≤ 60 ∨ (-1000000000000000 ≤ yearOf st ∧ yearOf st ≤ 1000000000000000)) →
    (parse sp fmt input z).ok

/-- (5'', after F20) no flag whatever seconds value strptime stores, for every int64 year: only
hour, minute, month and day of the final `tm` need to lie in their POSIX ranges, the seconds be
non-negative and `tm_year` be an int (`Pd.TmLo`) -/
def no_flags_final_statement : Prop :=
  ∀ (sp : Strptime) (fmt input : Bytes) (z : Zone),
    Qo.Tame' z → TmLo (final sp fmt input).tm → (parse sp fmt input z).ok

/-- (after F20) a successful parse (without `%s`) never carries a seconds value above the leap
second: tm_sec ≤ 60 in the final state, whatever strptime did -/
def seconds_le_60_statement : Prop :=
  ∀ (sp : Strptime) (fmt input : Bytes) (z : Zone) (t fs : Int),
    (parse sp fmt input z).val.1 = .ok t fs → (final sp fmt input).sawPercentS = false →
    (final sp fmt input).tm.sec ≤ 60

/-- (after F20) … so the hypothesis `TodOK st.tm` of (3)/(4)/(6c) reduces, for a successful parse, to
hour and minute in range and non-negative seconds -/
def tod_of_success_statement : Prop :=
  ∀ (sp : Strptime) (fmt input : Bytes) (z : Zone) (t fs : Int),
    let st := final sp fmt input
    (parse sp fmt input z).val.1 = .ok t fs → st.sawPercentS = false →
    0 ≤ st.tm.hour → st.tm.hour ≤ 23 → 0 ≤ st.tm.min → st.tm.min ≤ 59 → 0 ≤ st.tm.sec → TodOK st.tm

/-- (6a) `FromWeek(week_num, week_start, &year, &tm)` changes only the year, `tm_mon` and `tm_mday`,
and what it writes depends only on the year, the week number and `tm_wday` (`Pd.weekDate`) -/
def fromWeek_date_statement : Prop :=
  ∀ (weekNum : Int) (startSunday : Bool) (year : Int) (tm : Tm),
    (fromWeek weekNum startSunday year tm).val =
      (weekDate weekNum startSunday year tm.wday).map
        (fun p => (p.1, { tm with mon := p.2.1 - 1, mday := p.2.2 }))

/-- (6b) the date FromWeek computes exists, its year fits int64, and it is the day of weekday
`tm_wday` (`fromTmWday`: Monday = 0 … Sunday = 6) in week `weekNum` of `year`, weeks starting on
Sunday for `%U` and on Monday for `%W`, week 0 starting on the last such day STRICTLY before January
1st: `IsWeekDay weekNum ws target J D` says `D = W0 + k + 7·weekNum` with `W0` the last day `< J` of
weekday `ws` and `0 ≤ k ≤ 6` the distance to weekday `target`.  (So week 53 — and 52 — may name a
day of the following year and week 0 a day of the preceding one: the year is changed accordingly.) -/
def week_date_statement : Prop :=
  ∀ (weekNum : Int) (startSunday : Bool) (year wday y' m' d' : Int), inI64 year →
    weekDate weekNum startSunday year wday = some (y', m', d') →
    inI64 y' ∧ 1 ≤ m' ∧ m' ≤ 12 ∧ 1 ≤ d' ∧ d' ≤ daysInMonth y' m' ∧
    IsWeekDay weekNum (if startSunday then 6 else 0) (fromTmWday wday) (dayNum year 1 1) (dayNum y' m' d')

/-- (6c) a successful parse through `%U`/`%W`: FromWeek succeeded with a week number in 0..53, the
date it computed together with the parsed time of day is a valid civil second, and the instant is
the one that civil second denotes — exactly as in (3b), with FromWeek's date in place of
year/month/day.  (`i64min ≤ yearOf st` always holds in the C++, where `tm_year` is an `int`.) -/
def week_instant_statement : Prop :=
  ∀ (sp : Strptime) (fmt input : Bytes) (z : Zone) (t fs : Int),
    let st := final sp fmt input
    (parse sp fmt input z).val.1 = .ok t fs → st.sawPercentS = false → st.weekNum ≠ -1 → TodOK st.tm →
    i64min ≤ yearOf st →
    ∃ y' m' d', weekDate st.weekNum st.weekStartSunday (yearOf st) st.tm.wday = some (y', m', d') ∧
      0 ≤ st.weekNum ∧ st.weekNum ≤ 53 ∧
      Valid ⟨y', m', d', (adjTm st).hour, (adjTm st).min, min (adjTm st).sec 59⟩ ∧ fs = fsOf st ∧
      (st.sawOffset = true →
        t = secNum ⟨y', m', d', (adjTm st).hour, (adjTm st).min, min (adjTm st).sec 59⟩ +
              (if (adjTm st).sec = 60 then 1 else 0) - st.offset ∧ inI64 t) ∧
      (st.sawOffset = false → ∃ C, Valid C ∧
        secNum C = secNum ⟨y', m', d', (adjTm st).hour, (adjTm st).min, min (adjTm st).sec 59⟩ +
              (if (adjTm st).sec = 60 then 1 else 0) ∧
        t = (lookupC z C).pre)

/-! ## Proofs -/

theorem final_eq (sp : Strptime) (fmt input : Bytes) : final sp fmt input = Pa.loopEnd sp fmt input := rfl

theorem consumed : consumed_statement := by
  intro sp fmt input z t fs h
  obtain ⟨d, h1, h2, _⟩ := (parse_ok sp fmt input z t fs).1 h
  exact ⟨⟨d, h1, h2⟩, loopEnd_fmt sp fmt input d h1⟩

theorem percent_s : percent_s_statement := by
  intro sp fmt input z t fs h hs
  obtain ⟨d, _, _, h3⟩ := (parse_ok sp fmt input z t fs).1 h
  rw [final_eq] at hs
  rw [if_pos hs] at h3
  exact h3

theorem tod_invariant : tod_invariant_statement := fun sp fmt input h => (loopEnd_inv sp fmt input).tod h

/-- the hypothesis of `tod_invariant` is satisfiable: a format that never reaches strptime -/
example : SpTod (fun _ _ _ => none) := fun _ _ _ _ _ _ h => (by cases h)

theorem offset_complete : offset_complete_statement := by
  intro sp fmt input z t fs st hc hs hw htod hso
  obtain ⟨⟨d, h1, h2⟩, _⟩ := hc
  rw [parse_of_consumed sp fmt input z d h1 h2 hs]
  exact offset_iff sp _ z (loopEnd_inv sp fmt input) hw (adjTm_tod _ htod) hso t fs

theorem zone_complete : zone_complete_statement := by
  intro sp fmt input z t fs st hc hs hw htod hso
  obtain ⟨⟨d, h1, h2⟩, _⟩ := hc
  rw [parse_of_consumed sp fmt input z d h1 h2 hs]
  exact zone_iff sp _ z (loopEnd_inv sp fmt input) hw (adjTm_tod _ htod) hso t fs

theorem date_exists : date_exists_statement := by
  intro sp fmt input z t fs st h hs hw htod
  have hc := consumed sp fmt input z t fs h
  by_cases hso : st.sawOffset = true
  · exact ((offset_complete sp fmt input z t fs hc hs hw htod hso).1 h).1
  · exact ((zone_complete sp fmt input z t fs hc hs hw htod (by simpa using hso)).1 h).1

theorem instant_offset : instant_offset_statement := by
  intro sp fmt input z t fs st h hs hw htod hso
  have hc := consumed sp fmt input z t fs h
  obtain ⟨_, hin, ht, _⟩ := (offset_complete sp fmt input z t fs hc hs hw htod hso).1 h
  have hr := (loopEnd_inv sp fmt input).offR
  exact ⟨ht, ht ▸ hin, hr.1, hr.2⟩

theorem instant_zone : instant_zone_statement := by
  intro sp fmt input z t fs st h hs hw htod hso
  have hc := consumed sp fmt input z t fs h
  obtain ⟨_, _, C, vC, sC, ht, _, h1, h2⟩ := (zone_complete sp fmt input z t fs hc hs hw htod hso).1 h
  refine ⟨(loopEnd_inv sp fmt input).off0 hso, C, vC, sC, ht, fun e => ?_, fun e => ?_⟩
  · cases hl : Civil.lt (lookupT z i64max).cs C
    · rfl
    · exact absurd ⟨e, hl⟩ h1
  · cases hl : Civil.lt C (lookupT z i64min).cs
    · rfl
    · exact absurd ⟨e, hl⟩ h2

theorem zone_saturation : zone_saturation_statement := by
  intro sp fmt input z t fs st h hs hw htod hso wf cc hext
  obtain ⟨_, C, vC, sC, _, h1, h2⟩ := instant_zone sp fmt input z t fs h hs hw htod hso
  obtain ⟨vmax, smax, _⟩ := C01.breakTime_table z 0 i64max wf cc (Or.inl hext)
  obtain ⟨vmin, smin, _⟩ := C01.breakTime_table z 0 i64min wf cc (Or.inl hext)
  constructor
  · intro e
    have := (Tl.lt_false_iff vmax vC).1 (h1 e)
    rw [sC] at this; rw [← smax]; exact this
  · intro e
    have := (Tl.lt_false_iff vC vmin).1 (h2 e)
    rw [sC] at this; rw [← smin]; exact this

theorem subseconds : subseconds_statement := by
  intro sp fmt input z t fs st h hs hw
  have ha := parse_afterS sp fmt input z t fs h hs
  obtain ⟨C, _, _, _, hfs, _⟩ := general_denote _ z hw t fs ha
  exact ⟨hfs, hfs ▸ fsOf_range (loopEnd_inv sp fmt input)⟩

theorem instant_zone_range : instant_zone_range_statement := by
  intro sp fmt input z t fs st h hs hw htod hso tz hy
  have ha := parse_afterS sp fmt input z t fs h hs
  exact zone_range sp _ z (loopEnd_inv sp fmt input) hw (adjTm_tod _ htod) hso t fs ha tz hy

theorem out_of_range : out_of_range_statement := by
  intro sp fmt input z st hc hs hw htod hso hout
  cases hr : (parse sp fmt input z).val.1 with
  | fail => rfl
  | ok t fs => exact absurd ((offset_complete sp fmt input z t fs hc hs hw htod hso).1 hr).2.1 hout

theorem instant_general : instant_general_statement := by
  intro sp fmt input z t fs st tm h hs hw
  have ha := parse_afterS sp fmt input z t fs h hs
  obtain ⟨C, vC, sC, ht, hfs, hmx, hmn⟩ := general_denote _ z hw t fs ha
  refine ⟨C, vC, sC, ?_, fun hso => ?_⟩
  · -- `exact ht` alone would compare the two zones by unfolding `makeTime`
    rw [Tl.reset_val]; unfold lookupC; unfold ptzOf at ht; exact ht
  · have hf := (finish_ok ..).2 ⟨ht, hfs, hmx, hmn⟩
    rw [show ptzOf _ z = Tl.fixedZone 0 from if_pos hso, finish_utc _ _ vC] at hf
    split at hf
    · rename_i hin
      cases hf
      exact ⟨rfl, hin⟩
    · cases hf

theorem no_flags : no_flags_statement := fun sp fmt input z hsp tz => parse_flags sp fmt input z hsp tz

theorem no_flags_bounded : no_flags_bounded_statement :=
  fun sp fmt input z tz htm _ => parse_flags_core sp fmt input z tz (tmLo_of_tmOK61 _ htm)

theorem no_flags_final : no_flags_final_statement :=
  fun sp fmt input z tz htm => parse_flags_core sp fmt input z tz htm

theorem seconds_le_60 : seconds_le_60_statement := by
  intro sp fmt input z t fs h hs
  have ha := parse_afterS sp fmt input z t fs h hs
  have := afterS_sec _ z t fs ha
  unfold adjTm at this
  split at this <;> exact this

theorem tod_of_success : tod_of_success_statement := by
  intro sp fmt input z t fs st h hs h1 h2 h3 h4 h5
  exact ⟨h1, h2, h3, h4, h5, seconds_le_60 sp fmt input z t fs h hs⟩

theorem fromWeek_date : fromWeek_date_statement := fun weekNum startSunday year tm => by
  rw [fromWeek_val, fromWeekVal_eq]

theorem week_date : week_date_statement := by
  intro weekNum startSunday year wday y' m' d' hy h
  obtain ⟨h1, ⟨a1, a2, a3, a4⟩, h3⟩ := weekDate_some _ _ _ _ _ _ _ hy h
  exact ⟨h1, a1, a2, a3, a4, h3⟩

theorem week_instant : week_instant_statement := by
  intro sp fmt input z t fs st h hs hw htod hylo
  have ha := parse_afterS sp fmt input z t fs h hs
  exact Pd.week_instant sp _ z (loopEnd_inv sp fmt input) hw htod hylo t fs ha

/-- the hypotheses of `no_flags` are satisfiable: no strptime at all, the built-in UTC table -/
example : SpTm (fun _ _ _ => none) ∧ Qo.Tame' (resetToBuiltinUTC 0).val :=
  ⟨fun _ _ _ _ _ _ h => (by cases h), (by rw [Tl.reset_val]; exact utc_tame')⟩

/-! ## Examples: the hypotheses are satisfiable and the results are the expected instants

(`ofString_eq` before each evaluation: see `Cctz/Proofs/BytesLemmas.lean`) -/

/-- a strptime that is never reached (formats made of the conversions parse() handles itself) -/
def noSp : Strptime := fun _ _ _ => none
/-- UTC as a supplied zone -/
def utc : Zone := (resetToBuiltinUTC 0).val

theorem utc_tame : Qo.Tame' utc := by
  show Qo.Tame' (resetToBuiltinUTC 0).val
  rw [Tl.reset_val]; exact utc_tame'

/-- 'Sep 31' is an error, 'Sep 30' is not -/
example : (parse noSp (ofString "%Y-%m-%d") (ofString "2013-09-31") utc).val.1 = .fail := by simp only [ofString_eq]; decide +kernel
example : (parse noSp (ofString "%Y-%m-%d") (ofString "2013-09-30") utc).val.1 = .ok 1380499200 0 := by
  simp only [ofString_eq]; decide +kernel
/-- … and so is February 29 of a non-leap year, while 2024-02-29 exists -/
example : (parse noSp (ofString "%Y-%m-%d") (ofString "2023-02-29") utc).val.1 = .fail := by simp only [ofString_eq]; decide +kernel
example : (parse noSp (ofString "%Y-%m-%d") (ofString "2024-02-29") utc).val.1 = .ok 1709164800 0 := by
  simp only [ofString_eq]; decide +kernel

/-- ":60" rolls to the next minute: 2016-12-31 23:59:60 +00:00 is 2017-01-01 00:00:00 = 1483228800,
and the fraction is dropped -/
example : (parse noSp (ofString "%Y-%m-%d %H:%M:%E*S %Ez") (ofString "2016-12-31 23:59:60.75 +00:00") utc).val.1 =
    .ok 1483228800 0 := by simp only [ofString_eq]; decide +kernel
example : secNum ⟨2017, 1, 1, 0, 0, 0⟩ = 1483228800 := by decide
/-- the same text read at +05:30 is 19800 seconds earlier: t = x − offset -/
example : (parse noSp (ofString "%Y-%m-%d %H:%M:%S %Ez") (ofString "2016-12-31 23:59:60 +05:30") utc).val.1 =
    .ok (1483228800 - 19800) 0 := by simp only [ofString_eq]; decide +kernel

/-- the state behind the last example has every hypothesis of `instant_offset` / `offset_complete` -/
example :
    let st := final noSp (ofString "%Y-%m-%d %H:%M:%S %Ez") (ofString "2016-12-31 23:59:60 +05:30")
    Consumed st ∧ st.sawPercentS = false ∧ st.weekNum = -1 ∧ TodOK st.tm ∧ st.sawOffset = true ∧
    fieldsOf st = ⟨2016, 12, 31, 23, 59, 59⟩ ∧ xOf st = 1483228800 ∧ st.offset = 19800 ∧ fsOf st = 0 := by
  simp only [ofString_eq]; decide +kernel

/-- digits beyond femtoseconds are dropped -/
example : (parse noSp (ofString "%Y-%m-%d %H:%M:%E*S%Ez") (ofString "1970-01-01 00:00:01.1234567890123456789Z") utc).val.1 =
    .ok 1 123456789012345 := by simp only [ofString_eq]; decide +kernel

/-- without an offset the supplied zone decides; `Tc.zEx` jumps from +0 to +1h at 1000000
(civil 13:46:40 → 14:46:40 on 1970-01-12) and back at 2000000.  A skipped civil time gets the
'pre' reading (the instant it would be in the offset before the gap) … -/
example : (parse noSp (ofString "%Y-%m-%d %H:%M:%S") (ofString "1970-01-12 14:00:00") Tc.zEx).val.1 =
    .ok 1000800 0 ∧ (lookupC Tc.zEx ⟨1970, 1, 12, 14, 0, 0⟩) = ⟨.skipped, 1000800, 1000000, 997200⟩ := by
  simp only [ofString_eq]; decide +kernel
/-- … and a repeated one the earlier of its two instants -/
example : (parse noSp (ofString "%Y-%m-%d %H:%M:%S") (ofString "1970-01-24 04:00:00") Tc.zEx).val.1 =
    .ok 1998000 0 ∧ (lookupC Tc.zEx ⟨1970, 1, 24, 4, 0, 0⟩) = ⟨.repeated, 1998000, 2000000, 2001600⟩ := by
  simp only [ofString_eq]; decide +kernel
example :
    let st := final noSp (ofString "%Y-%m-%d %H:%M:%S") (ofString "1970-01-12 14:00:00")
    Consumed st ∧ st.sawPercentS = false ∧ st.weekNum = -1 ∧ TodOK st.tm ∧ st.sawOffset = false ∧
    fieldsOf st = ⟨1970, 1, 12, 14, 0, 0⟩ := by
  simp only [ofString_eq]; decide +kernel
/-- the table hypotheses of `zone_saturation` hold for that zone, those of `instant_zone_range`
(`Tame`) for the built-in UTC table -/
example : TableWF Tc.zEx ∧ CivilCols Tc.zEx ∧ Tc.zEx.extended = false := ⟨Tc.zEx_wf, Tc.zEx_cols, rfl⟩
example : Tame utc := utc_tame.toTame
/-- in the zone case too the last representable second parses and the next is rejected -/
example : (parse noSp (ofString "%Y-%m-%d %H:%M:%S") (ofString "292277026596-12-04 15:30:07") utc).val.1 =
    .ok i64max 0 ∧
    (parse noSp (ofString "%Y-%m-%d %H:%M:%S") (ofString "292277026596-12-04 15:30:08") utc).val.1 = .fail := by
  simp only [ofString_eq]; decide +kernel

/-- the last representable second parses, the next one is rejected (not wrapped, not saturated) -/
example : (parse noSp (ofString "%Y-%m-%d %H:%M:%S %z") (ofString "292277026596-12-04 15:30:07 +0000") utc).val.1 =
    .ok i64max 0 := by simp only [ofString_eq]; decide +kernel
example : (parse noSp (ofString "%Y-%m-%d %H:%M:%S %z") (ofString "292277026596-12-04 15:30:08 +0000") utc).val.1 =
    .fail := by simp only [ofString_eq]; decide +kernel
example : (parse noSp (ofString "%Y-%m-%d %H:%M:%S %z") (ofString "292277026596-12-04 15:30:08 +0000") utc).ok :=
  no_flags_final _ _ _ _ utc_tame (by simp only [ofString_eq]; decide +kernel)

/-! ### week numbers -/

/-- `%W`: Monday-based weeks.  2024-01-01 is a Monday, so week 9, Thursday (`%u` = 4) is 2024-02-29 -/
example : (parse noSp (ofString "%Y-W%W-%u") (ofString "2024-W09-4") utc).val.1 = .ok 1709164800 0 ∧
    weekDate 9 false 2024 4 = some (2024, 2, 29) ∧ secNum ⟨2024, 2, 29, 0, 0, 0⟩ = 1709164800 := by
  simp only [ofString_eq]; decide +kernel
/-- week 53 of a year that has no such week names a day of the next year: "2018 53 1" under
"%Y %U %w" is Monday 2019-01-07 (the real code agrees); week 0 can name a day of the year before:
"2017 0 0" is Sunday 2016-12-25 -/
example : (parse noSp (ofString "%Y %U %w") (ofString "2018 53 1") utc).val.1 = .ok 1546819200 0 ∧
    weekDate 53 true 2018 1 = some (2019, 1, 7) ∧ secNum ⟨2019, 1, 7, 0, 0, 0⟩ = 1546819200 := by
  simp only [ofString_eq]; decide +kernel
example : (parse noSp (ofString "%Y %U %w") (ofString "2017 0 0") utc).val.1 = .ok 1482624000 0 ∧
    weekDate 0 true 2017 0 = some (2016, 12, 25) := by
  simp only [ofString_eq]; decide +kernel
/-- the hypotheses of `week_instant` on the first of these -/
example :
    let st := final noSp (ofString "%Y-W%W-%u") (ofString "2024-W09-4")
    st.sawPercentS = false ∧ st.weekNum ≠ -1 ∧ TodOK st.tm ∧ i64min ≤ yearOf st ∧ st.sawOffset = false := by
  simp only [ofString_eq]; decide +kernel
/-- FromWeek fails (parse returns false) when the day lies in a year beyond int64 -/
example : weekDate 53 true i64max 6 = none ∧
    (parse noSp (ofString "%Y %U %w") (ofString "9223372036854775807 53 6") utc).val.1 = .fail := by
  simp only [ofString_eq]; decide +kernel

/-! ## `%s` switches the date check off -/

/-- (3a) needs `sawPercentS = false`: with a `%s` in the format the other fields are read and
range-checked one by one, but the date they form is never looked at — "2013-09-31 5" under
"%Y-%m-%d %s" returns true with the instant 5 (the real code agrees).  By design ("if we saw %s then
we ignore anything else"), but 'Sep 31' is accepted there. -/
theorem date_exists_needs_no_percent_s :
    (parse noSp (ofString "%Y-%m-%d %s") (ofString "2013-09-31 5") utc).val.1 = .ok 5 0 ∧
    ¬ Valid (fieldsOf (final noSp (ofString "%Y-%m-%d %s") (ofString "2013-09-31 5"))) := by
  simp only [ofString_eq]; decide +kernel

/-! ## Seconds above the leap second are rejected (repair F20) -/

/-- a strptime that behaves like glibc's on `%T`: it accepts a seconds value of 61 -/
def sp61 : Strptime := fun d spec tm =>
  if spec = ofString "%T" ∧ d.take 8 = ofString "12:00:61" then some (8, { tm with hour := 12, min := 0, sec := 61 })
  else none

/-- finding F20 ("fix: parse() normalized a seconds value of 61 let through by strptime()"): without
the check of tm_sec, "2016-12-31 12:00:61 +00:00" under "%Y-%m-%d %T %Ez" was accepted with that
strptime and returned 2016-12-31 12:01:01 (1483185661): seconds outside 0..60, normalised.  With it
the result is `false`, no flag is raised, and the final state does carry tm_sec = 61 (so it is that
check which rejects it). -/
theorem seconds_61_rejected :
    (parse sp61 (ofString "%Y-%m-%d %T %Ez") (ofString "2016-12-31 12:00:61 +00:00") utc).val.1 = .fail ∧
    (parse sp61 (ofString "%Y-%m-%d %T %Ez") (ofString "2016-12-31 12:00:61 +00:00") utc).ok ∧
    (let st := final sp61 (ofString "%Y-%m-%d %T %Ez") (ofString "2016-12-31 12:00:61 +00:00")
     Consumed st ∧ st.tm.sec = 61 ∧ TmLo st.tm ∧ yearOf st = 2016) := by
  have hst : (let st := final sp61 (ofString "%Y-%m-%d %T %Ez") (ofString "2016-12-31 12:00:61 +00:00")
     Consumed st ∧ st.tm.sec = 61 ∧ TmLo st.tm ∧ yearOf st = 2016) := by simp only [ofString_eq]; decide +kernel
  exact ⟨by simp only [ofString_eq]; decide +kernel, no_flags_final _ _ _ _ utc_tame hst.2.2.1, hst⟩

/-- a strptime that, like glibc's, reads "23:59:61" under `%T` as tm_hour = 23, tm_min = 59,
tm_sec = 61 (and rejects everything else) -/
def spMax : Strptime := fun d spec tm =>
  if spec = ofString "%T" ∧ d.take 8 = ofString "23:59:61" then some (8, { tm with hour := 23, min := 59, sec := 61 })
  else none

/-- finding F20.  Without the check of tm_sec the format "%Y-%m-%d %T" and the input
"9223372036854775807-12-31 23:59:61" made the civil-second constructor carry 61 seconds out of the
last minute of the year INT64_MAX: the model raised `ovf`, and in the C++ `y + (ey - oey)` in `n_day`
overflowed (UBSan: civil_time_detail.h, "signed integer overflow: 1 + 9223372036854775807",
reproduced with glibc's strptime).  With it the pair is rejected before the constructor runs: the
result is `false` and no flag is raised. -/
theorem seconds_61_no_overflow :
    (parse spMax (ofString "%Y-%m-%d %T") (ofString "9223372036854775807-12-31 23:59:61") utc).val.1 = .fail ∧
    (parse spMax (ofString "%Y-%m-%d %T") (ofString "9223372036854775807-12-31 23:59:61") utc).ok ∧
    Qo.Tame' utc :=
  ⟨by simp only [ofString_eq]; decide +kernel, no_flags_final _ _ _ _ utc_tame (by simp only [ofString_eq]; decide +kernel), utc_tame⟩

/-! ## What is still assumed about strptime (model level only: no real strptime does this) -/

/-- a strptime storing tm_min = 60 for "12:60" under `%R` -/
def spMin60 : Strptime := fun d spec tm =>
  if spec = ofString "%R" ∧ d.take 5 = ofString "12:60" then some (5, { tm with hour := 12, min := 60 })
  else none

/-- (3a) still needs the hour/minute part of `TodOK`: parse() range-checks neither, so with that
strptime "2016-12-31 12:60 +00:00" is accepted as 13:00:00 although ⟨…, 12, 60, 0⟩ is not a valid
civil second.  (POSIX and glibc keep tm_min within 0..59, so this is about the model's parameter,
not about the real code.) -/
theorem date_exists_needs_hm :
    (parse spMin60 (ofString "%Y-%m-%d %R %Ez") (ofString "2016-12-31 12:60 +00:00") utc).val.1 =
      .ok 1483189200 0 ∧
    ¬ Valid (fieldsOf (final spMin60 (ofString "%Y-%m-%d %R %Ez") (ofString "2016-12-31 12:60 +00:00"))) := by
  simp only [ofString_eq]; decide +kernel

/-- a strptime storing a negative tm_sec -/
def spNeg : Strptime := fun d spec tm =>
  if spec = ofString "%T" ∧ d.take 8 = ofString "00:00:-1" then some (8, { tm with hour := 0, min := 0, sec := -1 })
  else none

/-- (5)/(5'') still need a lower bound on what strptime stores: a negative tm_sec at the first second
of the year INT64_MIN makes the constructor borrow below the year range (`ovf`).  Same remark: no
real strptime stores a negative tm_sec. -/
theorem no_flags_needs_SpTm :
    ¬ (∀ (sp : Strptime) (fmt input : Bytes) (z : Zone), Qo.Tame' z → (parse sp fmt input z).ok) := by
  intro H
  have h := H spNeg (ofString "%Y-%m-%d %T") (ofString "-9223372036854775808-01-01 00:00:-1") utc utc_tame
  revert h
  simp only [ofString_eq]; decide +kernel

end Cctz.C09Denote
