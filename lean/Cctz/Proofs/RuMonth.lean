/-
  C01 (rule part) helper: the `Mm.w.d` date form.

  `Spec.monthWeekDay` searches the days of the year.  A month is an interval of those days, and the
  days of an interval that fall on one weekday are every seventh day from the first such day on; so
  the list the specification searches is an arithmetic progression, and its w-th and last elements
  are what `TransOffset` computes (`mDays`).

  First: filtering a range of naturals by an interval test, by leaving one number out, by a residue
  mod 7 — what the searches of `Spec/PosixRule.lean` come to.
-/
import Cctz.Model.Tz
import Cctz.Spec.PosixRule
import Cctz.Proofs.Calendar
import Cctz.Proofs.CountLe

namespace Cctz.Ru

theorem range_split {a n L : Nat} (hL : a + n ≤ L) :
    List.range L = List.range' 0 a ++ (List.range' a n ++ List.range' (a + n) (L - (a + n))) := by
  have h := @List.range'_append_1 0 a (n + (L - (a + n)))
  rw [Nat.zero_add] at h
  rw [List.range_eq_range', List.range'_append_1, h]
  congr 1; omega

theorem filter_range_interval {p : Nat → Bool} {a n L : Nat} (hL : a + n ≤ L)
    (hp : ∀ d, d < L → (p d = true ↔ a ≤ d ∧ d < a + n)) :
    (List.range L).filter p = List.range' a n := by
  rw [range_split hL, List.filter_append, List.filter_append, List.filter_eq_nil_iff.2,
    List.filter_eq_self.2, List.filter_eq_nil_iff.2, List.nil_append, List.append_nil]
  · intro d hd; rw [List.mem_range'_1] at hd; rw [hp d (by omega)]; omega
  · intro d hd; rw [List.mem_range'_1] at hd; rw [hp d (by omega)]; omega
  · intro d hd; rw [List.mem_range'_1] at hd; rw [hp d (by omega)]; omega

theorem filter_range_ne {c L : Nat} (h : c + 1 ≤ L) :
    (List.range L).filter (fun d => !(d == c)) =
      List.range' 0 c ++ List.range' (c + 1) (L - (c + 1)) := by
  rw [range_split h, List.filter_append, List.filter_append, List.filter_eq_self.2,
    List.filter_eq_nil_iff.2, List.filter_eq_self.2, List.nil_append]
  · intro d hd; rw [List.mem_range'_1] at hd; rw [Bool.not_eq_true', beq_eq_false_iff_ne]; omega
  · intro d hd; rw [List.mem_range'_1] at hd
    rw [Bool.not_eq_true, Bool.not_eq_false', beq_iff_eq]; omega
  · intro d hd; rw [List.mem_range'_1] at hd; rw [Bool.not_eq_true', beq_eq_false_iff_ne]; omega

/-- the numbers of `[s, s + len)` in one residue class mod 7 form a progression; `o` is the
distance from `s` to the first of them -/
theorem filter_mod7_range' (r : Nat) : ∀ (len s o : Nat), o < 7 → (s + o) % 7 = r →
    (List.range' s len).filter (fun d => d % 7 == r) = List.range' (s + o) ((len + 6 - o) / 7) 7 := by
  intro len
  induction len with
  | zero => intro s o ho _; rw [Nat.zero_add, Nat.div_eq_of_lt (by omega)]; rfl
  | succ len ih =>
    intro s o ho h
    rw [List.range'_succ, List.filter_cons]
    cases o with
    | zero =>
      rw [if_pos (beq_iff_eq.2 (by omega)), ih (s + 1) 6 (by decide) (by omega), Nat.add_sub_cancel,
        Nat.sub_zero, Nat.add_assoc len 1 6, Nat.add_div_right len (by decide), List.range'_succ]
      rfl
    | succ o =>
      rw [if_neg (by rw [beq_iff_eq]; omega), ih (s + 1) o (by omega) (by omega),
        Nat.add_right_comm len 1 6, Nat.add_sub_add_right, Nat.add_assoc s 1 o, Nat.add_comm 1 o]
end Cctz.Ru

namespace Cctz.Ru
open Cctz Cctz.Spec

/-! ### months and weekdays within a year -/

def cumAbs (leap : Bool) (m : Int) : Int := cumDays m + (if m > 2 ∧ leap = true then 1 else 0)

theorem daysBeforeMonth_abs (y m : Int) : daysBeforeMonth y m = cumAbs (isLeap y) m := rfl

theorem posixWeekday_eq (y : Int) (d : Nat) : posixWeekday y d = (posixWeekday y 0 + d) % 7 := by
  simp only [posixWeekday, weekdayOfDay]; omega

theorem posixWeekday_range (y : Int) (d : Nat) : 0 ≤ posixWeekday y d ∧ posixWeekday y d < 7 := by
  simp only [posixWeekday]; omega

theorem daysInYear_eq (y : Int) : daysInYear y = yearLen y := by
  simp only [daysInYear, yearLen]; split <;> rfl

theorem monthOfYearDay_eq_iff (y m : Int) (d : Nat) (hm : 1 ≤ m ∧ m ≤ 12) (hd : d < yearLen y) :
    monthOfYearDay y d = m ↔
      daysBeforeMonth y m ≤ d ∧ (d : Int) < daysBeforeMonth y m + daysInMonth y m := by
  have hf : ∀ i j : Nat, i ≤ j → j < 12 →
      daysBeforeMonth y ((i : Int) + 1) ≤ daysBeforeMonth y ((j : Int) + 1) := by
    intro i j hij hj
    by_cases h : i = j
    · subst h; exact Int.le_refl _
    · have := daysBeforeMonth_lt y (i + 1) (j + 1) (by omega) (by omega) (by omega)
      have := daysInMonth_pos y (i + 1)
      omega
  obtain ⟨k, rfl⟩ := Int.eq_ofNat_of_zero_le (Int.le_trans (by decide) hm.1)
  unfold monthOfYearDay
  rw [Int.natCast_inj, count_le_iff hf, show ((k - 1 : Nat) : Int) + 1 = k by omega]
  -- the end of month `k` is the start of month `k + 1`, or of the next year
  by_cases h12 : k = 12
  · have := daysBeforeMonth_dec y
    have := daysInYear_eq y
    subst h12; simp only [Int.cast_ofNat_Int, Nat.lt_irrefl, false_imp_iff, and_true]; omega
  · have := daysBeforeMonth_succ y k hm.1 (by omega)
    omega

theorem weekday_iff (w0 wd : Int) (s d : Nat) (h : (w0 + s) % 7 = wd) :
    (w0 + d) % 7 = wd ↔ d % 7 = s % 7 := by omega

theorem exists_offset (s wd : Int) (hd : 0 ≤ wd ∧ wd ≤ 6) : ∃ o : Nat, o < 7 ∧ (s + o) % 7 = wd :=
  ⟨((wd - s) % 7).toNat, by omega, by omega⟩

theorem monthWeekDay_hits (y m wd : Int) (hm : 1 ≤ m ∧ m ≤ 12) (hd : 0 ≤ wd ∧ wd ≤ 6) :
    ∃ a n o : Nat, (a : Int) = daysBeforeMonth y m ∧ (n : Int) = daysInMonth y m ∧
      o < 7 ∧ (posixWeekday y 0 + a + o) % 7 = wd ∧
      ((List.range (yearLen y)).filter fun d => monthOfYearDay y d == m && posixWeekday y d == wd) =
        List.range' (a + o) ((n + 6 - o) / 7) 7 := by
  have hn := daysInMonth_pos y m
  have hr := dayOfYear_range y m (daysInMonth y m) ⟨hm.1, hm.2, by omega, Int.le_refl _⟩
  have h0 := (dayOfYear_range y m 1 ⟨hm.1, hm.2, Int.le_refl _, by omega⟩).1
  obtain ⟨a, ha⟩ := Int.eq_ofNat_of_zero_le (a := daysBeforeMonth y m) (by omega)
  obtain ⟨n, hn'⟩ := Int.eq_ofNat_of_zero_le (a := daysInMonth y m) (by omega)
  rw [ha, hn', daysInYear_eq] at hr
  have hM : ((List.range (yearLen y)).filter fun d => monthOfYearDay y d == m) = List.range' a n :=
    filter_range_interval (by omega) fun d hd => by
      rw [beq_iff_eq, monthOfYearDay_eq_iff y m d hm hd, ha, hn']; omega
  obtain ⟨o, ho, hwd⟩ := exists_offset (posixWeekday y 0 + a) wd hd
  refine ⟨a, n, o, ha.symm, hn'.symm, ho, hwd, ?_⟩
  rw [← filter_mod7_range' ((a + o) % 7) _ _ _ ho rfl, ← hM, List.filter_filter]
  apply List.filter_congr
  intro d _
  rw [Bool.and_comm, posixWeekday_eq y d]
  congr 1
  rw [Bool.eq_iff_iff, beq_iff_eq, beq_iff_eq]
  exact weekday_iff _ _ (a + o) d (by rw [← hwd]; congr 1; omega)

/-! ### the arithmetic of `TransOffset` for the `M` form, without the monad -/

def mDays (leap : Bool) (w0 m w wd : Int) : Int :=
  let lastWeek := w == 5
  let tbl := if leap then Gen.kMonthOffsets1 else Gen.kMonthOffsets0
  let d0 := tbl.getD (m + b2i lastWeek).toNat 0
  let weekday := cmod (w0 + d0) 7
  if lastWeek then d0 - (cmod (weekday + 7 - 1 - wd) 7 + 1)
  else d0 + cmod (wd + 7 - weekday) 7 + (w - 1) * 7

/-- the table entries `TransOffset` reads for month `m`: its first day and the day after its last -/
theorem monthOffsets_month (y : Int) : ∀ m : Nat, m < 13 → 1 ≤ m →
    (if isLeap y then Gen.kMonthOffsets1 else Gen.kMonthOffsets0).getD m 0 = daysBeforeMonth y m ∧
    (if isLeap y then Gen.kMonthOffsets1 else Gen.kMonthOffsets0).getD (m + 1) 0 =
      daysBeforeMonth y m + daysInMonth y m := by
  unfold daysBeforeMonth daysInMonth
  generalize isLeap y = leap
  cases leap <;> decide

/-- `TransOffset`'s step from day `s` forward to the next day on weekday `wd` -/
theorem weekday_forward (s wd : Int) (o : Nat) (hs : 0 ≤ s) (ho : o < 7)
    (h : (s + o) % 7 = wd) : cmod (wd + 7 - cmod s 7) 7 = o := by
  rw [cmod_of_nonneg 7 hs, cmod_of_nonneg 7 (by omega)]
  omega

/-- its step from the day after an interval's last day back to weekday `wd` ends on the last term
of the progression that starts `o` days into the interval -/
theorem weekday_backward (w0 wd : Int) (a n o : Nat) (hw : 0 ≤ w0) (ho : o < 7) (hn : 7 ≤ n)
    (h : (w0 + a + o) % 7 = wd) :
    ((a + o + 7 * ((n + 6 - o) / 7 - 1) : Nat) : Int) =
      (a + n) - (cmod (cmod (w0 + (a + n)) 7 + 7 - 1 - wd) 7 + 1) := by
  rw [cmod_of_nonneg (a := w0 + (a + n)) 7 (by omega), cmod_of_nonneg 7 (by omega)]
  omega

/-- the `M` form: the searched day is the model's arithmetic, in every year -/
theorem monthWeekDay_eq_mDays (y m w wd : Int) (hm : 1 ≤ m ∧ m ≤ 12) (hw : 1 ≤ w ∧ w ≤ 5)
    (hd : 0 ≤ wd ∧ wd ≤ 6) :
    ∃ d : Nat, monthWeekDay y m w wd = some d ∧
      (d : Int) = mDays (isLeap y) (posixWeekday y 0) m w wd := by
  obtain ⟨a, n, o, ha, hn, ho, hwd, hits⟩ := monthWeekDay_hits y m wd hm hd
  have hn' := daysInMonth_pos y m
  have hw0 := (posixWeekday_range y 0).1
  obtain ⟨k, rfl⟩ := Int.eq_ofNat_of_zero_le (Int.le_trans (by decide) hm.1)
  obtain ⟨hlo, hhi⟩ := monthOffsets_month y k (by omega) (by omega)
  rw [← ha] at hlo
  rw [← ha, ← hn] at hhi
  unfold monthWeekDay mDays
  simp only [hits]
  by_cases h5 : w = 5
  · subst h5
    simp only [↓reduceIte, BEq.rfl, b2i, Int.toNat_natCast_add_one, hhi]
    rw [List.getLast?_eq_getElem?, List.length_range', List.getElem?_range' (by omega)]
    exact ⟨_, rfl, weekday_backward _ wd a n o hw0 ho (by omega) hwd⟩
  · -- a month has at least 28 days, hence at least four hits
    simp only [h5, ↓reduceIte, beq_iff_eq, b2i, Int.add_zero, Int.toNat_natCast, hlo]
    rw [List.getElem?_range' (by omega), weekday_forward _ wd o (by omega) ho (by omega)]
    exact ⟨_, rfl, by omega⟩

example : monthWeekDay 2024 3 2 0 = some 69 := by decide +kernel

end Cctz.Ru
