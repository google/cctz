/-
  C07Class helper proofs, format side: the text `Lex.formatSpec` gives for a format string spelled
  by items of the class is the concatenation of the items' renderings.
-/
import Cctz.Proofs.RtClassDefs
import Cctz.Proofs.RtClassNum
import Cctz.Proofs.LexScan
import Cctz.Proofs.PaSub

namespace Cctz.Rtc
open Cctz Cctz.Bytes Cctz.Format Cctz.Parse Cctz.Spec Cctz.Spec.Lex Cctz.Lx

/-- what follows the first two pieces of `specSegs none s` -/
def tailS (al : Tz.AbsLookup) (t fs : Int) (k : Nat) (s2 : Bytes) : List Seg :=
  if k % 2 = 0 then specSegs al t fs none s2
  else if s2 = [] then [.lit [37]]
  else match conv s2 with
    | some (c, r) => [.lit (renderConv c al t fs)] ++ specSegs al t fs none r
    | none => specSegs al t fs (some [37]) s2

theorem specSegs_none_shape (al : Tz.AbsLookup) (t fs : Int) (s : Bytes) (hs : s ≠ []) :
    specSegs al t fs none s = [.lit (leadText s), .lit (pcts (pctCount s / 2))] ++ tailS al t fs (pctCount s) (afterPcts s) := by
  rw [specSegs_eq]; unfold segsBody tailS; rw [if_neg hs]; dsimp only
  by_cases h1 : pctCount s % 2 = 0
  · rw [if_pos h1, if_pos h1]
  · rw [if_neg h1, if_neg h1]
    by_cases h2 : afterPcts s = []
    · rw [if_pos h2, if_pos h2]
    · rw [if_neg h2, if_neg h2]
      cases conv (afterPcts s) <;> simp

theorem tailS_add2 (al : Tz.AbsLookup) (t fs : Int) (k : Nat) (s2 : Bytes) :
    tailS al t fs (k + 2) s2 = tailS al t fs k s2 := by
  unfold tailS
  rw [show (k + 2) % 2 = k % 2 by omega]

theorem render_nil (sf : Strftime) (tm : Tm) : render sf tm [] = [] := Lx.render_nil sf tm

theorem render_append (sf : Strftime) (tm : Tm) (a b : List Seg) :
    render sf tm (a ++ b) = render sf tm a ++ render sf tm b := Lx.render_append sf tm a b

/-- a literal byte passes through -/
theorem render_S_lit (sf : Strftime) (tm : Tm) (al : Tz.AbsLookup) (t fs : Int) (c : UInt8) (s : Bytes)
    (hc : c ≠ 37) :
    render sf tm (specSegs al t fs none (c :: s)) = c :: render sf tm (specSegs al t fs none s) := by
  have e1 : leadText (c :: s) = c :: leadText s := by simp [leadText, List.takeWhile, hc]
  have e2 : fromPct (c :: s) = fromPct s := by simp [fromPct, List.dropWhile, hc]
  have e3 : pctCount (c :: s) = pctCount s := by simp only [pctCount, e2]
  have e4 : afterPcts (c :: s) = afterPcts s := by simp only [afterPcts, e2]
  by_cases hs : s = []
  · subst hs
    rw [specSegs_none_shape _ _ _ _ (by simp), e1, e3, e4]
    have k0 : pctCount ([] : Bytes) = 0 := rfl
    have k1 : afterPcts ([] : Bytes) = [] := rfl
    have k2 : leadText ([] : Bytes) = [] := rfl
    rw [k0, k1, k2]
    simp [tailS, endSegs, specSegs_nil, render, pcts]
  · rw [specSegs_none_shape _ _ _ _ (by simp), specSegs_none_shape _ _ _ _ hs, e1, e3, e4]
    simp only [List.cons_append, List.nil_append, render_cons_lit]

theorem pcts_succ (k : Nat) : pcts (k + 1) = 37 :: pcts k := by
  simp [pcts, List.replicate_succ]

/-- "%%" is one '%' -/
theorem render_S_pct (sf : Strftime) (tm : Tm) (al : Tz.AbsLookup) (t fs : Int) (s : Bytes) :
    render sf tm (specSegs al t fs none (37 :: 37 :: s)) = 37 :: render sf tm (specSegs al t fs none s) := by
  rw [specSegs_none_shape _ _ _ _ (by simp)]
  have e1 : leadText (37 :: 37 :: s) = [] := by simp [leadText, List.takeWhile]
  have e2 : fromPct (37 :: 37 :: s) = 37 :: 37 :: s := by simp [fromPct, List.dropWhile]
  cases s with
  | nil =>
    have e3 : pctCount (37 :: 37 :: ([] : Bytes)) = 2 := by simp [pctCount, e2, List.takeWhile]
    have e4 : afterPcts (37 :: 37 :: ([] : Bytes)) = [] := by simp [afterPcts, e2, List.dropWhile]
    rw [e1, e3, e4]
    simp [tailS, specSegs_nil, endSegs, render, pcts]
  | cons c s1 =>
    by_cases hc : c = 37
    · subst hc
      have f1 : leadText (37 :: s1) = [] := by simp [leadText, List.takeWhile]
      have f2 : fromPct (37 :: s1) = 37 :: s1 := by simp [fromPct, List.dropWhile]
      have e3 : pctCount (37 :: 37 :: 37 :: s1) = pctCount (37 :: s1) + 2 := by
        simp only [pctCount, e2, f2]; simp [List.takeWhile]
      have e4 : afterPcts (37 :: 37 :: 37 :: s1) = afterPcts (37 :: s1) := by
        simp only [afterPcts, e2, f2]; simp [List.dropWhile]
      rw [specSegs_none_shape _ _ _ _ (show (37 :: s1 : Bytes) ≠ [] by simp), e1, e3, e4, f1, tailS_add2,
        show (pctCount (37 :: s1) + 2) / 2 = pctCount (37 :: s1) / 2 + 1 by omega, pcts_succ]
      simp only [List.cons_append, List.nil_append, render_cons_lit]
    · have e3 : pctCount (37 :: 37 :: c :: s1) = 2 := by simp [pctCount, e2, List.takeWhile, hc]
      have e4 : afterPcts (37 :: 37 :: c :: s1) = c :: s1 := by simp [afterPcts, e2, List.dropWhile, hc]
      rw [e1, e3, e4]
      simp [tailS, render_cons_lit, pcts]

/-- a conversion of the library's own is replaced by its rendering -/
theorem render_S_conv (sf : Strftime) (tm : Tm) (al : Tz.AbsLookup) (t fs : Int) (c0 : UInt8) (b s : Bytes)
    (cv : Conv) (hc0 : c0 ≠ 37) (hconv : conv (c0 :: b ++ s) = some (cv, s)) :
    render sf tm (specSegs al t fs none (37 :: c0 :: b ++ s)) =
      renderConv cv al t fs ++ render sf tm (specSegs al t fs none s) := by
  rw [specSegs_none_shape _ _ _ _ (by simp)]
  have e1 : leadText (37 :: c0 :: b ++ s) = [] := by simp [leadText]
  have e3 : pctCount (37 :: c0 :: b ++ s) = 1 := by simp [pctCount, List.takeWhile, hc0]
  have e4 : afterPcts (37 :: c0 :: b ++ s) = c0 :: b ++ s := by simp [afterPcts, List.dropWhile, hc0]
  rw [e1, e3, e4]
  unfold tailS
  rw [if_neg (by decide), if_neg (by simp)]
  simp only [List.cons_append] at hconv
  simp only [List.cons_append, hconv]
  simp [render_cons_lit, pcts]

/-! ### each conversion of the class is read as itself -/

theorem conv_dig (n : Nat) (x : UInt8) (s : Bytes) (h1 : 10 ≤ n) (hx : isDigit x = false) :
    conv (69 :: (decNat n ++ x :: s)) = convDig (decNat n ++ x :: s) ∧
    (decNat n ++ x :: s).takeWhile isDigit = decNat n ∧ (decNat n ++ x :: s).dropWhile isDigit = x :: s := by
  obtain ⟨c1, c2, tl, e, d1, d2⟩ := decNat_two n h1
  obtain ⟨t1, t2⟩ := Pa.takeWhile_append_of_all (p := isDigit) (decNat n) (x :: s) (Pa.decNat_digits n)
    (by simpa using hx)
  refine ⟨?_, t1, t2⟩
  rw [e]
  have a1 : c1 ≠ 84 := by intro h; subst h; cases d1
  have a2 : c1 ≠ 122 := by intro h; subst h; cases d1
  have a3 : c1 ≠ 42 := by intro h; subst h; cases d1
  have a4 : c2 ≠ 89 := by intro h; subst h; cases d2
  exact conv_E _ (by simpa using a1) (by simpa using a2) (by simp [a3]) (by simp [a4])

theorem conv_spell (k : CK) (s : Bytes) (hv : (Item.conv k).valid) :
    conv (spellC k ++ s) = some (toConv k, s) := by
  cases k with
  | secN n =>
    obtain ⟨h1, h2⟩ := hv
    obtain ⟨a, b, c⟩ := conv_dig n 83 s (by omega) (by decide)
    show conv (69 :: ((decNat n ++ [83]) ++ s)) = _
    rw [List.append_assoc, List.singleton_append, a,
      convDig_S _ s (by rw [b]; exact Pa.decNat_ne_nil n) (by rw [b, digitsVal_decNat]; exact h2) c,
      b, digitsVal_decNat]
    rfl
  | fracN n =>
    obtain ⟨h1, h2⟩ := hv
    obtain ⟨a, b, c⟩ := conv_dig n 102 s (by omega) (by decide)
    show conv (69 :: ((decNat n ++ [102]) ++ s)) = _
    rw [List.append_assoc, List.singleton_append, a,
      convDig_F _ s (by rw [b]; exact Pa.decNat_ne_nil n) (by rw [b, digitsVal_decNat]; exact h2) c,
      b, digitsVal_decNat]
    rfl
  | _ => rfl

theorem spellC_head (k : CK) : ∃ c0 b, spellC k = c0 :: b ∧ c0 ≠ 37 := by
  cases k <;> exact ⟨_, _, rfl, by decide⟩

/-- the text for a format spelled by well-formed items -/
theorem render_spell (sf : Strftime) (tm : Tm) (al : Tz.AbsLookup) (t fs : Int) (l : List Item)
    (hv : ∀ it ∈ l, it.valid) :
    render sf tm (specSegs al t fs none (spellAll l)) = renderAll al t fs l := by
  induction l with
  | nil => simp [spellAll, renderAll, specSegs_nil, endSegs, render]
  | cons it l ih =>
    have ih' := ih (fun x hx => hv x (by simp [hx]))
    have hit := hv it (by simp)
    unfold spellAll renderAll at *
    rw [List.flatMap_cons, List.flatMap_cons]
    generalize List.flatMap spell l = F at *
    generalize List.flatMap (renderItem al t fs) l = R at *
    cases it with
    | lit c =>
      show render sf tm (specSegs al t fs none (c :: F)) = c :: R
      rw [render_S_lit _ _ _ _ _ _ _ hit.1, ih']
    | pct =>
      show render sf tm (specSegs al t fs none (37 :: 37 :: F)) = 37 :: R
      rw [render_S_pct, ih']
    | conv k =>
      obtain ⟨c0, b, e, hc0⟩ := spellC_head k
      have hc := conv_spell k F hit
      show render sf tm (specSegs al t fs none (37 :: (spellC k ++ F))) = renderConv (toConv k) al t fs ++ R
      rw [e] at hc ⊢
      have := render_S_conv sf tm al t fs c0 b F _ hc0 hc
      rw [← ih']
      exact this

end Cctz.Rtc
