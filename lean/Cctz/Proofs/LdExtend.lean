/-
  C12 helper proofs: `GetTransitionType`, the footer evaluation (`AllYearDST`,
  `TransOffset`, the year loop) and `ExtendTransitions`: no unset read ever, no memory flag when the
  table indices are in range, and the shape of the resulting table.
-/
import Cctz.Proofs.LoadSafe
import Cctz.Proofs.PosixParse

namespace Cctz.Ld
open Cctz Cctz.Wd Cctz.Tz

/-! ### "no unset read" as a predicate of its own -/

def NU (x : Ck α) : Prop := x.flags.unset = false

theorem nu_pure (a : α) : NU (pure a : Ck α) := rfl
theorem nu_chk64 (x : Int) : NU (chk64 x) := rfl
theorem nu_of_safe {x : Ck α} (h : Safe x) : NU x := h.2.2
theorem nu_bind (x : Ck α) (f : α → Ck β) : NU (x >>= f) ↔ NU x ∧ NU (f x.val) := by
  simp only [NU, Ck.bind_flags, Flags.or, Bool.or_eq_false_iff]
theorem nu_bind_all {x : Ck α} {f : α → Ck β} (hx : NU x) (hf : ∀ a, NU (f a)) : NU (x >>= f) :=
  (nu_bind x f).2 ⟨hx, hf _⟩
theorem nu_getC (a : List α) (i : Int) (d : α) : NU (getC a i d) := by
  unfold getC; split <;> rfl
theorem nu_getType (z : Zone) (i : Nat) : NU (getType z i) := by
  unfold getType; split <;> rfl
theorem nu_getTrans (z : Zone) (i : Nat) : NU (getTrans z i) := by
  unfold getTrans; split <;> rfl

theorem getType_safe (z : Zone) (i : Nat) (h : i < z.types.size) : Safe (getType z i) := by
  unfold getType
  rw [Array.getElem?_eq_getElem h]
  exact safe_pure _

theorem getTrans_safe (z : Zone) (i : Nat) (h : i < z.transitions.size) : Safe (getTrans z i) := by
  unfold getTrans
  rw [Array.getElem?_eq_getElem h]
  exact safe_pure _

theorem getTrans_val_mem (z : Zone) (i : Nat) (h : i < z.transitions.size) :
    (getTrans z i).val ∈ z.transitions.toList := by
  unfold getTrans
  rw [Array.getElem?_eq_getElem h]
  exact Array.getElem_mem_toList h

theorem localTimeTT_safe (abbrs : Bytes) (t : Int) (tt : TransitionType) :
    Safe (localTimeTT abbrs t tt) := by
  unfold localTimeTT
  simp only [safe_bind, civilAdd_safe, safe_pure, and_self]

theorem localTimeTr_safe (z : Zone) (t : Int) (tr : Transition) (h : tr.typeIndex < z.types.size) :
    Safe (localTimeTr z t tr) := by
  unfold localTimeTr
  simp only [safe_bind, getType_safe z _ h, safe_chk64, civilAdd_safe, safe_pure, and_self]

theorem equivTransitions_safe (z : Zone) (i j : Nat) (hi : i < z.types.size) (hj : j < z.types.size) :
    Safe (equivTransitions z i j) := by
  unfold equivTransitions
  refine Wd.safe_ite (safe_pure _) ?_
  simp only [safe_bind, getType_safe z _ hi, getType_safe z _ hj, safe_pure, and_self]

theorem equivTransitions_nu (z : Zone) (i j : Nat) : NU (equivTransitions z i j) := by
  unfold equivTransitions
  split
  · exact nu_pure _
  · exact nu_bind_all (nu_getType ..) fun _ => nu_bind_all (nu_getType ..) fun _ => nu_pure _

theorem gtt_go_le (z : Zone) (o : Int) (d : Bool) (abbr : Bytes) (i ai fuel : Nat)
    (h : i ≤ z.types.size) : (getTransitionType.go z o d abbr i ai fuel).1 ≤ z.types.size := by
  induction fuel generalizing i ai with
  | zero => simpa [getTransitionType.go] using h
  | succ n ih =>
    unfold getTransitionType.go
    split
    · exact h
    · rename_i tt htt
      have hlt : i < z.types.size := by
        rcases Nat.lt_or_ge i z.types.size with h' | h'
        · exact h'
        · rw [Array.getElem?_eq_none h'] at htt; cases htt
      dsimp only
      repeat' split
      all_goals first | exact h | exact ih _ _ hlt

/-- what a successful `GetTransitionType` does to the zone: only `types` (grown by at most one
entry) and `abbreviations` (possibly grown at the end) change, and the index returned is inside the
new `types` -/
theorem getTransitionType_spec (z z' : Zone) (o : Int) (d : Bool) (abbr : Bytes) (ti : Nat)
    (h : getTransitionType z o d abbr = some (z', ti)) :
    z'.transitions = z.transitions ∧ z'.defaultType = z.defaultType ∧ z'.extended = z.extended ∧
    z'.lastYear = z.lastYear ∧ z'.futureSpec = z.futureSpec ∧
    z.types.toList <+: z'.types.toList ∧ z.abbreviations <+: z'.abbreviations ∧ ti < z'.types.size := by
  unfold getTransitionType at h
  have hle := gtt_go_le z o d abbr 0 z.abbreviations.length (z.types.size + 1) (Nat.zero_le _)
  generalize getTransitionType.go z o d abbr 0 z.abbreviations.length (z.types.size + 1) = r at h hle
  obtain ⟨a, b⟩ := r
  dsimp only at h hle
  split at h
  · cases h
  · split at h
    · injection h with h
      injection h with h1 h2
      subst h1 h2
      refine ⟨rfl, rfl, rfl, rfl, rfl, ?_, ?_, ?_⟩
      · show z.types.toList <+: (z.types.push _).toList
        rw [Array.toList_push]
        exact List.prefix_append _ _
      · show z.abbreviations <+: (if _ then _ else _)
        split
        · rw [List.append_assoc]; exact List.prefix_append _ _
        · exact List.prefix_refl _
      · show a < (z.types.push _).size
        rw [Array.size_push]; omega
    · injection h with h
      injection h with h1 h2
      subst h1 h2
      exact ⟨rfl, rfl, rfl, rfl, rfl, List.prefix_refl _, List.prefix_refl _, by omega⟩

theorem size_le_of_prefix {a b : Array α} (h : a.toList <+: b.toList) : a.size ≤ b.size := by
  simpa using h.length_le

/-! ### what an accepted footer determines -/

/-- an `Mm.w.d` date names a month `1..12` -/
def DateOK (d : Posix.Date) : Prop := d.fmt = .M → 1 ≤ d.a ∧ d.a ≤ 12

/-- every field of the rule that `ExtendTransitions` reads is written, and months are months -/
structure PosixOK (p : Posix.TimeZone) : Prop where
  std : p.stdOffset.isSome = true
  dst : p.dstAbbr ≠ [] → p.dstOffset.isSome = true ∧ ∃ d1 t1 d2 t2,
    p.dstStart = ⟨some d1, some t1⟩ ∧ p.dstEnd = ⟨some d2, some t2⟩ ∧ DateOK d1 ∧ DateOK d2

theorem isDate_ok (t rest : Bytes) (d : Posix.Date) (h : Spec.IsDate t rest d) : DateOK d := by
  rcases h with ⟨_, _, _, _, rfl, _⟩ | ⟨_, _, rfl, _⟩ | ⟨_, _, _, m, _, _, _, hm, _, _, rfl, _⟩
  · intro h; cases h
  · intro h; cases h
  · intro _; exact ⟨hm.2.2.2.1, hm.2.2.2.2⟩

theorem isDateTime_ok (t rest : Bytes) (d : Posix.Date) (tm : Int) (h : Spec.IsDateTime t rest d tm) :
    DateOK d := by
  rcases h with ⟨_, _, h, _⟩ | ⟨_, _, _, h, _⟩ <;> exact isDate_ok _ _ _ h

theorem parse_posixOK (s : Bytes) (r : Posix.TimeZone) (h : Posix.parsePosixSpec s = some r) :
    PosixOK r := by
  obtain ⟨_, _, ta, to, rest, stdAbbr, v, _, _, _, hr⟩ := Posix.parse_sound s r h
  rcases hr with ⟨_, rfl⟩ | ⟨dstAbbr, dstOff, st, en, ⟨_, _, _, _, d1, t1, d2, t2, _, _, _, h1, h2, rfl, rfl⟩, rfl⟩
  · exact ⟨rfl, fun hne => absurd rfl hne⟩
  · exact ⟨rfl, fun _ => ⟨rfl, d1, t1, d2, t2, rfl, rfl, isDateTime_ok _ _ _ _ h1,
      isDateTime_ok _ _ _ _ h2⟩⟩

theorem safe_pure_bind {a : α} {f : α → Ck β} (h : Safe (f a)) : Safe ((pure a : Ck α) >>= f) :=
  (safe_bind _ _).2 ⟨safe_pure _, h⟩

theorem rd_some_safe (v d : α) : Safe (rd (some v) d) := safe_pure _

theorem rd_safe {o : Option α} (d : α) (h : o.isSome = true) : Safe (rd o d) := by
  cases o with
  | none => cases h
  | some v => exact safe_pure _

theorem allYearDST_safe (p : Posix.TimeZone) (d1 d2 : Posix.Date) (t1 t2 : Int)
    (h0 : p.stdOffset.isSome = true) (h1 : p.dstOffset.isSome = true)
    (h2 : p.dstStart = ⟨some d1, some t1⟩) (h3 : p.dstEnd = ⟨some d2, some t2⟩) :
    Safe (allYearDST p) := by
  unfold allYearDST
  simp only [h2, h3, safe_bind, safe_ite_iff, rd_safe _ h0, rd_safe _ h1, rd_some_safe, safe_chk64,
    safe_pure, implies_true, and_self]

theorem b2i_range (b : Bool) : 0 ≤ b2i b ∧ b2i b < 2 := by cases b <;> decide

theorem transOffset_safe (leap : Bool) (w : Int) (d : Posix.Date) (t : Int) (hd : DateOK d) :
    Safe (transOffset leap w ⟨some d, some t⟩) := by
  unfold transOffset
  refine safe_pure_bind ((safe_bind _ _).2 ⟨?_, safe_pure_bind
    (by simp only [safe_bind, safe_chk64, and_self])⟩)
  obtain ⟨fmt, a, b, c⟩ := d
  cases fmt with
  | J =>
    simp only [safe_bind, safe_ite_iff, safe_getC _ _ _ (show 0 ≤ (3 : Int) ∧ (3 : Int) < Gen.kMonthOffsets1.length by decide), safe_chk64,
      safe_pure, implies_true, and_self]
  | N => exact safe_pure _
  | M =>
    have hm : 1 ≤ a ∧ a ≤ 12 := hd rfl
    have hb := b2i_range (b == 5)
    have hi : Safe (getC (if leap = true then Gen.kMonthOffsets1 else Gen.kMonthOffsets0) (a + b2i (b == 5)) 0) :=
      safe_getC _ _ _ (by cases leap <;> simp [Gen.kMonthOffsets0, Gen.kMonthOffsets1] <;> omega)
    simp only [safe_bind, safe_ite_iff, hi, safe_chk64, implies_true, and_self]
def AllIdx (a : Array Transition) (n : Nat) : Prop := ∀ t ∈ a.toList, t.typeIndex < n

theorem allIdx_push {a : Array Transition} {n : Nat} {t : Transition} (ha : AllIdx a n)
    (ht : t.typeIndex < n) : AllIdx (a.push t) n := by
  intro x hx
  rw [Array.toList_push, List.mem_append] at hx
  rcases hx with hx | hx
  · exact ha x hx
  · rw [List.mem_singleton] at hx; subst hx; exact ht

/-- what the year loop appends keeps an invariant `I` that appending an entry with `P` keeps -/
theorem pair_inv {I : Array Transition → Prop} {P : Transition → Prop}
    (hI : ∀ a t, I a → P t → I (a.push t))
    (s : Array Transition) (hs : I s) (x y : Transition) (hx : P x) (hy : P y)
    (c : Prop) [Decidable c] (lastTime : Int) :
    I (if lastTime < (if c then (x, y) else (y, x)).2.unixTime then
        (if lastTime < (if c then (x, y) else (y, x)).1.unixTime then
          s.push (if c then (x, y) else (y, x)).1 else s).push (if c then (x, y) else (y, x)).2
       else s) := by
  by_cases hc : c
  · simp only [if_pos hc]
    split
    · split
      · exact hI _ _ (hI _ _ hs hx) hy
      · exact hI _ _ hs hy
    · exact hs
  · simp only [if_neg hc]
    split
    · split
      · exact hI _ _ (hI _ _ hs hy) hx
      · exact hI _ _ hs hx
    · exact hs

theorem extendLoop_safe (p : Posix.TimeZone) (dstTi stdTi : Nat) (lastTime so dO : Int)
    (d1 d2 : Posix.Date) (t1 t2 : Int)
    (h2 : p.dstStart = ⟨some d1, some t1⟩) (h3 : p.dstEnd = ⟨some d2, some t2⟩)
    (hd1 : DateOK d1) (hd2 : DateOK d2) (n : Nat) :
    ∀ s, Safe (extendLoop p dstTi stdTi lastTime so dO n s) := by
  have hy : ∀ b, Safe (getC Gen.kSecsPerYear (b2i b) 0) ∧ Safe (getC Gen.kDaysPerYear (b2i b) 0) :=
    fun b => ⟨safe_getC _ _ _ (by cases b <;> decide), safe_getC _ _ _ (by cases b <;> decide)⟩
  induction n with
  | zero =>
    intro s
    unfold extendLoop
    simp only [h2, h3, safe_bind, transOffset_safe _ _ _ _ hd1, transOffset_safe _ _ _ _ hd2, safe_chk64,
      safe_pure, and_self]
  | succ n ih =>
    intro s
    unfold extendLoop
    simp only [h2, h3, safe_bind, transOffset_safe _ _ _ _ hd1, transOffset_safe _ _ _ _ hd2, safe_chk64,
      hy, ih, and_self]

/-! ### `ExtendTransitions`: no unset read, for every zone -/

theorem extendTransitions_nu (z : Zone) : NU (extendTransitions z) := by
  unfold extendTransitions
  dsimp only
  split
  · exact nu_pure _
  split
  · exact nu_pure _
  rename_i posix hp
  have ok := parse_posixOK _ _ hp
  refine nu_bind_all (nu_of_safe (rd_safe _ ok.std)) fun stdOff => ?_
  split
  · exact nu_pure _
  rename_i z1 stdTi _
  refine nu_bind_all (nu_getTrans ..) fun back => ?_
  split
  · exact nu_bind_all (equivTransitions_nu ..) fun _ => nu_pure _
  rename_i hne
  have hne' : posix.dstAbbr ≠ [] := by
    intro h; rw [h] at hne; exact hne rfl
  obtain ⟨hdo, d1, t1, d2, t2, hs, he, hd1, hd2⟩ := ok.dst hne'
  refine nu_bind_all (nu_of_safe (rd_safe _ hdo)) fun dstOff => ?_
  split
  · exact nu_pure _
  rename_i z2 dstTi _
  refine nu_bind_all (nu_of_safe (allYearDST_safe posix d1 d2 t1 t2 ok.std hdo hs he)) fun ay => ?_
  split
  · exact nu_bind_all (equivTransitions_nu ..) fun _ => nu_pure _
  try dsimp only
  refine nu_bind_all (nu_getType ..) fun lastTT => ?_
  refine nu_bind_all (nu_of_safe (localTimeTT_safe ..)) fun lt => ?_
  refine (nu_bind _ _).2 ⟨nu_of_safe (civilNew_safe ..), ?_⟩
  rw [civilNew_jan1_val]
  refine nu_bind_all (nu_of_safe (difference_safe ..)) fun _ => ?_
  refine nu_bind_all (nu_of_safe (getWeekday_safe _ (by show (1:Int) ≤ 1; decide) (by show (1:Int) ≤ 12; decide))) fun _ => ?_
  exact nu_bind_all (nu_of_safe (extendLoop_safe posix dstTi stdTi _ _ _ d1 d2 t1 t2 hs he hd1 hd2 _ _))
    fun _ => nu_pure _

/-! ### `ExtendTransitions`: memory-safe on a table with in-range indices -/

/-- what `Load` has established about the table when it calls `ExtendTransitions` -/
structure ExtPre (z : Zone) : Prop where
  nonempty : 0 < z.transitions.size
  idx : AllIdx z.transitions z.types.size

theorem extendTransitions_safe (z : Zone) (hz : ExtPre z) : Safe (extendTransitions z) := by
  unfold extendTransitions
  dsimp only
  split
  · exact safe_pure _
  split
  · exact safe_pure _
  rename_i posix hp
  have ok := parse_posixOK _ _ hp
  refine safe_bind_all (rd_safe _ ok.std) fun stdOff => ?_
  split
  · exact safe_pure _
  rename_i z1 stdTi hg1
  obtain ⟨e1, _, _, _, _, e6, _, e7⟩ := getTransitionType_spec _ _ _ _ _ _ hg1
  replace e6 : z.types.size ≤ z1.types.size := size_le_of_prefix e6
  dsimp only at e1
  have hne1 : z1.transitions.size - 1 < z1.transitions.size := by
    rw [e1]; have := hz.nonempty; omega
  refine safe_bind_of (fun back => back ∈ z1.transitions.toList)
    ⟨getTrans_safe _ _ hne1, getTrans_val_mem _ _ hne1⟩ fun back hback => ?_
  have hbk : back.typeIndex < z1.types.size := by
    rw [e1] at hback; exact Nat.lt_of_lt_of_le (hz.idx _ hback) e6
  split
  · simp only [safe_bind, equivTransitions_safe _ _ _ hbk e7, safe_pure, and_self]
  rename_i hne
  have hne' : posix.dstAbbr ≠ [] := by
    intro h; rw [h] at hne; exact hne rfl
  obtain ⟨hdo, d1, t1, d2, t2, hs, he, hd1, hd2⟩ := ok.dst hne'
  refine safe_bind_all (rd_safe _ hdo) fun dstOff => ?_
  split
  · exact safe_pure _
  rename_i z2 dstTi hg2
  obtain ⟨_, _, _, _, _, f6, _, f7⟩ := getTransitionType_spec _ _ _ _ _ _ hg2
  have hbk2 : back.typeIndex < z2.types.size := Nat.lt_of_lt_of_le hbk (size_le_of_prefix f6)
  have hw : ∀ y, Safe (Civil.getWeekday ⟨y, 1, 1, 0, 0, 0⟩) := fun y =>
    getWeekday_safe _ (by show (1 : Int) ≤ 1; decide) (by show (1 : Int) ≤ 12; decide)
  simp only [safe_bind, safe_ite_iff, allYearDST_safe posix d1 d2 t1 t2 ok.std hdo hs he,
    equivTransitions_safe _ _ _ hbk2 f7, getType_safe _ _ hbk2, localTimeTT_safe, civilNew_safe,
    civilNew_jan1_val, difference_safe, hw,
    extendLoop_safe posix dstTi stdTi _ _ _ d1 d2 t1 t2 hs he hd1 hd2, safe_pure, implies_true, and_self]

end Cctz.Ld
