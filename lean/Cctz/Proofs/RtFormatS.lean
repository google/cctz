/-
  `format("%s", t)` writes the decimal `t`, and `parse("%s", ·)` reads it back.
-/
import Cctz.Proofs.PaPercent
import Cctz.Proofs.FmLiteral

namespace Cctz.Rt
open Cctz Cctz.Bytes Cctz.Format Cctz.Parse Cctz.Spec Cctz.Pa

/-- the segments `format` produces for "%s": an empty literal (the zero escaped percent signs)
and the decimal instant -/
theorem formatLoop_percent_s (al : Tz.AbsLookup) (tm : Tm) (t fs : Int) (n : Nat) :
    (formatLoop #[37, 115] al tm t fs (n + 2) {}).val = [.lit [], .lit (format64 0 t)] := by
  rw [formatLoop]
  simp [formatLoop.skipTo, Gen.formatSimpleSpecs, Fm.scratch_val]
  rw [formatLoop]
  simp

theorem render_percent_s (sf : Strftime) (al : Tz.AbsLookup) (t fs : Int) :
    render sf (formatSegs (ofString "%s") al t fs).val.1 (formatSegs (ofString "%s") al t fs).val.2 =
      decInt t := by
  have h2 : (formatSegs (ofString "%s") al t fs).val.2 = [.lit [], .lit (format64 0 t)] := by
    rw [Fm.formatSegs_val, ofString_percent_s, show ([37, 115] : Bytes).length + 2 = 2 + 2 from rfl]
    exact formatLoop_percent_s al _ t fs 2
  rw [h2, Fm.format64_zero]
  simp [render]

theorem percent_s_roundtrip (sp : Strptime) (sf : Strftime) (al : Tz.AbsLookup) (z' : Tz.Zone)
    (t fs : Int) (ht : inI64 t) :
    (parse sp (ofString "%s")
      (render sf (formatSegs (ofString "%s") al t fs).val.1 (formatSegs (ofString "%s") al t fs).val.2)
      z').val.1 = .ok t 0 := by
  rw [render_percent_s]
  exact parse_percent_s sp z' t ht

end Cctz.Rt
