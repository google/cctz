/-
  C12 helper proofs: memory safety as `Wd.Safe` (no oob / fuel / unset flag: the same notion
  as `Spec.MemSafe x.flags`), the rules for it that take a value-dependent continuation, and safety
  of every civil-time function the zone code calls (`civilAdd/civilSub/civilNew/difference` at second
  granularity, `getWeekday` on a valid month), on top of `Wd.safe_nSec`.
-/
import Cctz.Model.Tz
import Cctz.Spec.TableSem
import Cctz.Proofs.WdNDay

namespace Cctz.Ld
open Cctz Cctz.Wd

theorem step_second_safe (f : Fields) (n : Int) : Safe (Civil.step .second f n) := by
  unfold Civil.step
  simp only [safe_bind, safe_chk64, safe_nSec, and_self]

theorem civilAdd_safe (f : Fields) (n : Int) : Safe (Civil.civilAdd .second f n) :=
  (safe_map _ _).2 (step_second_safe f n)

theorem civilNew_safe (y m d hh mm ss : Int) : Safe (Civil.civilNew .second y m d hh mm ss) :=
  (safe_map _ _).2 (safe_nSec ..)

theorem civilSub_safe (f : Fields) (n : Int) : Safe (Civil.civilSub .second f n) := by
  unfold Civil.civilSub
  split <;> simp only [safe_bind, safe_map, safe_chk64, step_second_safe, and_self]

theorem scaleAdd_safe (v f a : Int) : Safe (Civil.scaleAdd v f a) := by
  unfold Civil.scaleAdd
  split <;> simp only [safe_bind, safe_chk64, and_self]

theorem ymdOrd_safe (y m d : Int) : Safe (Civil.ymdOrd y m d) := by
  unfold Civil.ymdOrd
  simp only [safe_bind, safe_chk64, and_true, and_self]
  exact ⟨safe_ite (safe_chk64 _) (safe_pure _), safe_ite (safe_pure _) (safe_chk64 _)⟩

theorem dayDifference_safe (y1 m1 d1 y2 m2 d2 : Int) : Safe (Civil.dayDifference y1 m1 d1 y2 m2 d2) := by
  unfold Civil.dayDifference
  simp only [safe_bind, safe_chk64, ymdOrd_safe, true_and, and_true]
  refine safe_ite ?_ (safe_ite ?_ (safe_pure _)) <;> simp only [safe_bind, safe_chk64, safe_pure, and_self]

theorem difference_safe (f1 f2 : Fields) : Safe (Civil.difference .second f1 f2) := by
  unfold Civil.difference
  simp only [safe_bind, dayDifference_safe, scaleAdd_safe, and_self]

theorem memSafe_iff_safe (x : Ck α) : Spec.MemSafe x.flags ↔ Safe x := by
  unfold Spec.MemSafe Safe
  constructor
  · rintro ⟨a, b, c⟩; exact ⟨a, c, b⟩
  · rintro ⟨a, b, c⟩; exact ⟨a, c, b⟩

theorem memSafe_bind (x : Ck α) (f : α → Ck β) :
    Spec.MemSafe (x >>= f).flags ↔ Spec.MemSafe x.flags ∧ Spec.MemSafe (f x.val).flags := by
  simp only [memSafe_iff_safe, safe_bind]

theorem memSafe_pure (a : α) : Spec.MemSafe (pure a : Ck α).flags := ⟨rfl, rfl, rfl⟩
theorem memSafe_chk64 (x : Int) : Spec.MemSafe (chk64 x).flags := ⟨rfl, rfl, rfl⟩

/-- bind when the continuation is safe for every value -/
theorem safe_bind_all {x : Ck α} {f : α → Ck β} (hx : Safe x) (hf : ∀ a, Safe (f a)) :
    Safe (x >>= f) := (safe_bind x f).2 ⟨hx, hf _⟩

/-- bind when the continuation is safe for the values satisfying what `x` establishes -/
theorem safe_bind_of {x : Ck α} {f : α → Ck β} (P : α → Prop) (hx : Holds x P)
    (hf : ∀ a, P a → Safe (f a)) : Safe (x >>= f) := (safe_bind x f).2 ⟨hx.1, hf _ hx.2⟩

theorem safe_bind'_of {x : Ck α} {f : α → Ck β} (P : α → Prop) (hx : Holds x P)
    (hf : ∀ a, P a → Safe (f a)) : Safe (x.bind' f) := safe_bind_of P hx hf

theorem safe_ite_iff {c : Prop} [Decidable c] {x y : Ck α} :
    Safe (if c then x else y) ↔ (c → Safe x) ∧ (¬ c → Safe y) := by
  split <;> simp [*]

theorem safe_ite {c : Prop} [Decidable c] {x y : Ck α} (hx : c → Safe x) (hy : ¬ c → Safe y) :
    Safe (if c then x else y) := safe_ite_iff.2 ⟨hx, hy⟩

theorem safe_of_holds {x : Ck α} {P : α → Prop} (h : Holds x P) : Safe x := h.1

theorem holds_val {x : Ck α} (h : Safe x) : Holds x (fun a => a = x.val) := ⟨h, rfl⟩

theorem holds_and {x : Ck α} {P Q : α → Prop} (h1 : Holds x P) (h2 : Q x.val) :
    Holds x (fun a => P a ∧ Q a) := ⟨h1.1, h1.2, h2⟩

theorem holds_ite {c : Prop} [Decidable c] {x y : Ck α} {Q : α → Prop} (hx : c → Holds x Q)
    (hy : ¬ c → Holds y Q) : Holds (if c then x else y) Q := by
  split
  · exact hx ‹_›
  · exact hy ‹_›

theorem holds_bind_safe {x : Ck α} {f : α → Ck β} {Q : β → Prop} (hx : Safe x)
    (hf : ∀ a, Holds (f a) Q) : Holds (x >>= f) Q :=
  holds_bind (fun _ => True) ⟨hx, trivial⟩ fun a _ => hf a

theorem safe_getC (a : List α) (i : Int) (d : α) (h : 0 ≤ i ∧ i < a.length) : Safe (getC a i d) :=
  safe_of_ok _ ((getC_ok a i d).2 h)

theorem getWeekday_safe (f : Fields) (h1 : 1 ≤ f.m) (h2 : f.m ≤ 12) : Safe (Civil.getWeekday f) := by
  unfold Civil.getWeekday
  dsimp only
  refine (safe_bind _ _).2 ⟨safe_getC _ _ _ ?_, safe_getC _ _ _ ?_⟩
  · simp [Gen.kWeekdayOffsets]; omega
  · generalize 2400 + cmod f.y 400 - b2i (decide (f.m < 3)) +
      (cdiv (2400 + cmod f.y 400 - b2i (decide (f.m < 3))) 4 -
        cdiv (2400 + cmod f.y 400 - b2i (decide (f.m < 3))) 100 +
        cdiv (2400 + cmod f.y 400 - b2i (decide (f.m < 3))) 400) +
      ((getC Gen.kWeekdayOffsets f.m 0).val + f.d) = a
    have := cmod_range a (k := 7) (by decide)
    simp [Gen.kWeekdayByMonOff]; omega

/-- `civilNew .second y 1 1 0 0 0` is `y-01-01 00:00:00` -/
theorem civilNew_jan1_val (y : Int) : (Civil.civilNew .second y 1 1 0 0 0).val = ⟨y, 1, 1, 0, 0, 0⟩ := by
  simp [Civil.civilNew, Civil.nSec, Civil.align]

end Cctz.Ld
