/-
  C05 — Civil-time arithmetic and difference are exact inverses in the aligned unit.
-/
import Cctz.Model.Civil
import Cctz.Spec.Gregorian
import Cctz.Proofs.CivilArith

namespace Cctz.C05
open Cctz.Spec

/-- adding `n` moves a civil time by exactly `n` units of its alignment -/
def add_exact_statement : Prop :=
  ∀ (t : Tag) (a : Fields) (n : Int), Valid a → Aligned t a →
    let r := (Civil.civilAdd t a n).val
    Valid r ∧ Aligned t r ∧ unitNum t r = unitNum t a + n

def sub_exact_statement : Prop :=
  ∀ (t : Tag) (a : Fields) (n : Int), Valid a → Aligned t a →
    let r := (Civil.civilSub t a n).val
    Valid r ∧ Aligned t r ∧ unitNum t r = unitNum t a - n

/-- `a - b` is exactly the number of units from `b` to `a` -/
def difference_exact_statement : Prop :=
  ∀ (t : Tag) (a b : Fields), Valid a → Valid b → Aligned t a → Aligned t b →
    (Civil.difference t a b).val = unitNum t a - unitNum t b

/-- the two are inverse -/
def inverse_statement : Prop :=
  ∀ (t : Tag) (a b : Fields) (n : Int), Valid a → Valid b → Aligned t a → Aligned t b →
    (Civil.difference t (Civil.civilAdd t a n).val a).val = n ∧
    (Civil.civilAdd t b (Civil.difference t a b).val).val = a

/-- comparison is the order of the denoted seconds, for any two alignments -/
def lt_iff_statement : Prop :=
  ∀ a b : Fields, Valid a → Valid b →
    (Civil.lt a b = true ↔ secNum a < secNum b) ∧
    (Civil.le a b = true ↔ secNum a ≤ secNum b) ∧
    (Civil.eq a b = true ↔ secNum a = secNum b)

/-- and agrees with the sign of the difference -/
def lt_iff_difference_statement : Prop :=
  ∀ (t : Tag) (a b : Fields), Valid a → Valid b → Aligned t a → Aligned t b →
    (Civil.lt a b = true ↔ (Civil.difference t a b).val < 0)

/-- no avoidable intermediate overflow: when the operands are int64 and the exact result is
representable, no flag is raised (includes `n = INT64_MIN`, years `INT64_MIN/MAX`, differences
equal to `INT64_MIN/MAX`) -/
def add_no_overflow_statement : Prop :=
  ∀ (t : Tag) (a : Fields) (n : Int), Valid a → Aligned t a → inI64 a.y → inI64 n →
    inI64 (Civil.civilAdd t a n).val.y → (Civil.civilAdd t a n).ok

def sub_no_overflow_statement : Prop :=
  ∀ (t : Tag) (a : Fields) (n : Int), Valid a → Aligned t a → inI64 a.y → inI64 n →
    inI64 (Civil.civilSub t a n).val.y → (Civil.civilSub t a n).ok

def difference_no_overflow_statement : Prop :=
  ∀ (t : Tag) (a b : Fields), Valid a → Valid b → Aligned t a → Aligned t b → inI64 a.y → inI64 b.y →
    inI64 (unitNum t a - unitNum t b) → (Civil.difference t a b).ok

theorem add_exact : add_exact_statement := civilAdd_spec

theorem sub_exact : sub_exact_statement := civilSub_spec

theorem difference_exact : difference_exact_statement := difference_val

theorem inverse : inverse_statement := by
  intro t a b n va vb ha hb
  obtain ⟨v1, al1, u1⟩ := civilAdd_spec t a n va ha
  obtain ⟨v2, al2, u2⟩ := civilAdd_spec t b (Civil.difference t a b).val vb hb
  constructor
  · rw [difference_val t _ a v1 va al1 ha, u1]; omega
  · apply unitNum_inj t v2 va al2 ha
    rw [u2, difference_val t a b va vb ha hb]; omega

theorem lt_iff : lt_iff_statement :=
  fun _ _ va vb => ⟨lt_iff_secNum va vb, le_iff_secNum va vb, eq_iff_secNum va vb⟩

theorem lt_iff_difference : lt_iff_difference_statement := by
  intro t a b va vb ha hb
  rw [difference_val t a b va vb ha hb, lt_iff_lex, ← unitNum_lt_iff_lex t va vb ha hb]
  omega

theorem add_no_overflow : add_no_overflow_statement := civilAdd_ok

theorem sub_no_overflow : sub_no_overflow_statement := civilSub_ok

theorem difference_no_overflow : difference_no_overflow_statement := difference_ok

/-- the hypotheses of the no-overflow theorems are satisfiable at the edges of the range -/
example : Valid ⟨9223372036854775807, 12, 31, 23, 59, 59⟩ ∧
    inI64 (Civil.civilSub .second ⟨9223372036854775807, 12, 31, 23, 59, 59⟩ 9223372036854775807).val.y ∧
    inI64 (Civil.civilAdd .day ⟨-9223372036854775808, 1, 1, 0, 0, 0⟩ 9223372036854775807).val.y ∧
    ¬ inI64 (Civil.civilSub .day ⟨9223372036854775807, 1, 1, 0, 0, 0⟩ (-9223372036854775808)).val.y ∧
    inI64 (unitNum .month ⟨384307168202282325, 1, 1, 0, 0, 0⟩ -
      unitNum .month ⟨-384307168202282325, 1, 1, 0, 0, 0⟩) := by
  decide +kernel

/-- the hypotheses are satisfiable on non-trivial values -/
example : Valid ⟨2024, 2, 29, 13, 0, 0⟩ ∧ Aligned .hour ⟨2024, 2, 29, 13, 0, 0⟩ ∧
    Valid ⟨1969, 12, 1, 0, 0, 0⟩ ∧ Aligned .month ⟨1969, 12, 1, 0, 0, 0⟩ := by decide

end Cctz.C05
