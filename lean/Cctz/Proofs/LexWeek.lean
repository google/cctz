/-
  C08Lex helper proofs: `ToTM` and `ToWeek` against the calendar.  `ToWeek` works on the year
  reduced modulo 400, so nothing in it can overflow.
-/
import Cctz.Proofs.FmRfc
import Cctz.Proofs.CivilArith
import Cctz.Spec.FormatLex

namespace Cctz.Lx
open Cctz Cctz.Bytes Cctz.Format Cctz.Spec Cctz.Spec.Lex Cctz.Fm Cctz.Wd

theorem toTmWday_eq (w : Int) (h0 : 0 ≤ w) (h6 : w ≤ 6) : toTmWday w = (w + 1) % 7 := by
  unfold toTmWday
  by_cases h : w = 6
  · subst h; decide
  · have : (w == 6) = false := by simpa using h
    rw [this]; simp only [Bool.false_eq_true, if_false]; omega

theorem toTM_year (y : Int) :
    ((if y < i32min + 1900 then pure i32min
      else do
        let d ← chk64 (y - 1900)
        if d > i32max then pure i32max else pure d : Ck Int)).val =
    (if y - 1900 < i32min then i32min else if y - 1900 > i32max then i32max else y - 1900) := by
  by_cases h : y < i32min + 1900
  · rw [if_pos h, if_pos (by omega)]; rfl
  · rw [if_neg h, if_neg (by omega), Ck.bindv, chk64_val]
    split <;> rfl

theorem toTM_val (al : Tz.AbsLookup) (hv : Valid al.cs) :
    (toTM al).val = ⟨al.cs.ss, al.cs.mm, al.cs.hh, al.cs.d, al.cs.m - 1,
      (if al.cs.y - 1900 < i32min then i32min else if al.cs.y - 1900 > i32max then i32max else al.cs.y - 1900),
      Lex.wday al.cs, Lex.yday al.cs, if al.isDst then 1 else 0⟩ := by
  have hw := (getWeekday_correct al.cs hv).2
  have hy := (getYearday_correct al.cs hv).2.1
  have hr := weekdayOfDay_range (dayNum al.cs.y al.cs.m al.cs.d)
  unfold toTM
  simp only [Ck.bindv, Ck.pure_val]
  rw [toTM_year, hw, hy, toTmWday_eq _ hr.1 hr.2]
  simp only [Lex.wday, Lex.yday]
  congr 1
  omega

theorem wday_range (cs : Fields) : 0 ≤ Lex.wday cs ∧ Lex.wday cs ≤ 6 := by
  unfold Lex.wday; omega

theorem yday_range (cs : Fields) (hv : Valid cs) : 0 ≤ Lex.yday cs ∧ Lex.yday cs ≤ 365 := by
  obtain ⟨_, hy, h1, h2⟩ := getYearday_correct cs hv
  have : daysInYear cs.y ≤ 366 := by unfold daysInYear; split <;> omega
  unfold Lex.yday; omega

/-- a valid date goes through the normalising constructor unchanged -/
theorem civilNew_day_valid (y m d : Int) (hv : ValidDate y m d) :
    Holds (Civil.civilNew .day y m d 0 0 0) (fun r => r = ⟨y, m, d, 0, 0, 0⟩) := by
  obtain ⟨hm1, hm2, hd1, hd2⟩ := hv
  have hb := daysInMonth_pos y m
  unfold Civil.civilNew
  apply holds_map
  have hnd : Holds (Civil.nDay y m d 0 0 0 0) (fun r => Civil.align .day r = ⟨y, m, d, 0, 0, 0⟩) := by
    refine holds_mono (nDay_small y m d 0 0 0 0 hm1 hm2) ?_
    intro r ⟨h1, h2, h3, h4, h5, _⟩
    obtain ⟨e1, e2, e3⟩ := dayNum_inj (y1 := r.y) (m1 := r.m) (d1 := r.d) ⟨h2, h3, h4, h5⟩
      ⟨hm1, hm2, hd1, hd2⟩ (by omega)
    simp [Civil.align, e1, e2, e3]
  unfold Civil.nSec
  simp only [Int.le_refl, true_and, show (0 : Int) < 60 by decide, show (0 : Int) < 24 by decide, if_true]
  split
  · apply holds_pure; simp [Civil.align]
  · unfold Civil.nMon
    by_cases h12 : m = 12
    · subst h12; simpa using hnd
    · have hne : (m != 12) = true := by simpa using h12
      have e1 : cdiv m 12 = 0 := by rw [cdiv_eq]; split <;> omega
      have e2 : cmod m 12 = m := by rw [cmod_eq]; split <;> omega
      simp only [hne, if_true, e1, e2, Int.add_zero]
      apply holds_chk64_bind
      rw [if_neg (by omega)]
      exact hnd

theorem valid_jan1 (y : Int) : Valid (⟨y, 1, 1, 0, 0, 0⟩ : Fields) := by
  have := daysInMonth_pos y 1
  unfold Valid
  dsimp only
  omega

theorem civilNew_day_ok (y m d : Int) (hy : -400 < y ∧ y < 400) (hv : ValidDate y m d) :
    (Civil.civilNew .day y m d 0 0 0).ok := by
  have hval := (civilNew_day_valid y m d hv).2
  obtain ⟨hm1, hm2, hd1, hd2⟩ := hv
  have hb := daysInMonth_pos y m
  unfold Civil.civilNew at hval ⊢
  rw [Ck.map_ok]
  rw [Ck.map_val] at hval
  have hy' : (Civil.nSec y m d 0 0 0).val.y = y := by
    have := congrArg Fields.y hval
    rwa [align_y] at this
  apply nSec_ok y m d 0 0 0 (inI64_small _ (by omega) (by omega))
    (by decide) (by decide) (by decide)
  · intro _
    have : Int.tdiv m 12 = 0 ∨ Int.tdiv m 12 = 1 := by
      have : Int.tdiv m 12 = if 0 ≤ m then m / 12 else -((-m) / 12) := cdiv_eq m 12
      rw [if_pos (by omega)] at this; omega
    apply inI64_small <;> omega
  · apply inI64_small <;> omega
  · rw [hy']; exact inI64_small _ (by omega) (by omega)

theorem prevWeekday_ok (y ws : Int) (hy : -400 < y ∧ y < 400) (hw0 : 0 ≤ ws) (hw6 : ws ≤ 6) :
    (Civil.prevWeekday ⟨y, 1, 1, 0, 0, 0⟩ ws).ok ∧
      y - 1 ≤ (Civil.prevWeekday ⟨y, 1, 1, 0, 0, 0⟩ ws).val.y ∧ (Civil.prevWeekday ⟨y, 1, 1, 0, 0, 0⟩ ws).val.y ≤ y := by
  have hjan : Valid (⟨y, 1, 1, 0, 0, 0⟩ : Fields) := valid_jan1 y
  have hal : Aligned .day (⟨y, 1, 1, 0, 0, 0⟩ : Fields) := ⟨rfl, rfl, rfl⟩
  obtain ⟨_, hpv, hpa, k, hk1, hk7, hpd, _⟩ := prevWeekday_holds _ ws hjan hw0 hw6
  dsimp only at hpd
  -- the year of the result
  have hle : (Civil.prevWeekday ⟨y, 1, 1, 0, 0, 0⟩ ws).val.y ≤ y :=
    year_le_of_unitNum_le .day hpv hjan hpa hal (by simp only [unitNum]; omega)
  have hprev : Valid (⟨y - 1, 1, 1, 0, 0, 0⟩ : Fields) := valid_jan1 (y - 1)
  have hge : y - 1 ≤ (Civil.prevWeekday ⟨y, 1, 1, 0, 0, 0⟩ ws).val.y := by
    have := jan1_step (y - 1) y (by omega)
    exact year_le_of_unitNum_le .day hprev hpv ⟨rfl, rfl, rfl⟩ hpa (by simp only [unitNum]; omega)
  refine ⟨?_, hge, hle⟩
  obtain ⟨gok, gval⟩ := getWeekday_correct _ hjan
  have hbr := weekdayOfDay_range (dayNum y 1 1)
  have hpval : (Civil.prevWeekday ⟨y, 1, 1, 0, 0, 0⟩ ws).val =
      (Civil.civilSub .day ⟨y, 1, 1, 0, 0, 0⟩
        ((Civil.findFrom Gen.kWeekdaysBack ws
            ((Civil.findFrom Gen.kWeekdaysBack (Civil.getWeekday ⟨y, 1, 1, 0, 0, 0⟩).val 0 15).val.toNat + 1) 15).val -
          (Civil.findFrom Gen.kWeekdaysBack (Civil.getWeekday ⟨y, 1, 1, 0, 0, 0⟩).val 0 15).val)).val := by
    simp only [Civil.prevWeekday, Ck.bindv]
  rw [hpval] at hge hle
  unfold Civil.prevWeekday
  simp only [Ck.bind_ok]
  rw [gval] at hge hle ⊢
  obtain ⟨iok, jok, hji⟩ := back_walk (weekdayOfDay (dayNum y 1 1)) ws hbr.1 hbr.2 hw0 hw6
  refine ⟨gok, iok, jok, ?_⟩
  rw [hji] at hge hle ⊢
  exact civilSub_ok .day _ _ hjan hal (inI64_small _ (by dsimp only; omega) (by dsimp only; omega))
    (inI64_small _ (by omega) (by omega)) (inI64_small _ (by omega) (by omega))

/-- `ToWeek`: no flag, and the number of `ws`-days up to the date within its year -/
theorem toWeek_spec (cs : Fields) (ws : Int) (hv : Valid cs) (hw0 : 0 ≤ ws) (hw6 : ws ≤ 6) :
    (toWeek cs ws).ok ∧
    (toWeek cs ws).val = (Lex.yday cs + 7 - (weekdayOfDay (dayNum cs.y cs.m cs.d) - ws) % 7) / 7 := by
  obtain ⟨hlo, hhi⟩ := cmod_range cs.y (k := 400) (by decide)
  have hq := (cdiv_cmod cs.y 400).symm
  generalize cdiv cs.y 400 = q at hq
  have hvd : ValidDate (cmod cs.y 400) cs.m cs.d := by
    obtain ⟨a, b, c, e, _⟩ := hv
    refine ⟨a, b, c, ?_⟩
    have := daysInMonth_add_400_mul (cmod cs.y 400) q cs.m
    rw [show cmod cs.y 400 + 400 * q = cs.y by omega] at this
    rw [← this]; exact e
  have hday : ∀ m d, dayNum cs.y m d = dayNum (cmod cs.y 400) m d + 146097 * q := by
    intro m d
    rw [← dayNum_add_400_mul, show cmod cs.y 400 + 400 * q = cs.y by omega]
  unfold toWeek
  simp only [Lex.yday]
  rw [hday cs.m cs.d, hday 1 1]
  generalize cmod cs.y 400 = y' at hvd hlo hhi ⊢
  have hd0 := (civilNew_day_valid y' cs.m cs.d hvd).2
  have hvd0 : Valid (⟨y', cs.m, cs.d, 0, 0, 0⟩ : Fields) := by
    obtain ⟨a, b, c, e⟩ := hvd
    exact ⟨a, b, c, e, Int.le_refl _, by show (0 : Int) ≤ 23; decide, Int.le_refl _,
      by show (0 : Int) ≤ 59; decide, Int.le_refl _, by show (0 : Int) ≤ 59; decide⟩
  simp only [Ck.bind_ok, Ck.bindv, Ck.pure_ok, Ck.pure_val, and_true, hd0]
  have hjan1 : Civil.align .year ⟨y', cs.m, cs.d, 0, 0, 0⟩ = ⟨y', 1, 1, 0, 0, 0⟩ := rfl
  rw [hjan1]
  obtain ⟨pok, hpy1, hpy2⟩ := prevWeekday_ok y' ws ⟨hlo, hhi⟩ hw0 hw6
  obtain ⟨_, hpv, hpa, k, hk1, hk7, hpd, hpw, _⟩ := prevWeekday_holds _ ws (valid_jan1 y') hw0 hw6
  obtain ⟨_, hyv, hy1, hy2⟩ := getYearday_correct _ hvd0
  have hdy : daysInYear y' ≤ 366 := by unfold daysInYear; split <;> omega
  rw [hyv] at hy1 hy2
  dsimp only at hy1 hy2 hpd hpw
  refine ⟨⟨civilNew_day_ok y' cs.m cs.d ⟨hlo, hhi⟩ hvd, pok, ?_⟩, ?_⟩
  · exact difference_ok .day _ _ hvd0 hpv ⟨rfl, rfl, rfl⟩ hpa (inI64_small _ (by dsimp only; omega) (by dsimp only; omega))
      (inI64_small _ (by omega) (by omega)) (inI64_small _ (by simp only [unitNum]; omega) (by simp only [unitNum]; omega))
  · rw [difference_val .day _ _ hvd0 hpv ⟨rfl, rfl, rfl⟩ hpa]
    simp only [unitNum]
    unfold weekdayOfDay at hpw ⊢
    rw [cdiv_eq]
    split <;> omega

end Cctz.Lx
