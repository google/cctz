/-
  What a successful `parse` returns, read off `tailVal`.
-/
import Cctz.Proofs.PdTail
import Cctz.Proofs.PdInv
import Cctz.Proofs.PdCivil

namespace Cctz.Pd
open Cctz Cctz.Bytes Cctz.Format Cctz.Parse Cctz.Spec Cctz.Tz Cctz.Pa

/-- the zone the fields are read in -/
def ptzOf (st : PState) (z : Zone) : Zone := if st.sawOffset then Tl.fixedZone 0 else z

def tmFields (y : Int) (tm : Tm) : Fields := ⟨y, tm.mon + 1, tm.mday, tm.hour, tm.min, tm.sec⟩

/-! ### the `tm_sec == 60` adjustment -/

theorem secAdj_eq (st : PState) :
    secAdj st = ({ adjTm st with sec := if (adjTm st).sec = 60 then 59 else (adjTm st).sec },
      st.offset - (if (adjTm st).sec = 60 then 1 else 0), fsOf st) := by
  unfold secAdj fsOf
  by_cases h : (adjTm st).sec = 60
  · rw [if_pos (by rw [h]; rfl), if_pos h, if_pos h, if_pos h]
  · rw [if_neg (by simpa using h), if_neg h, if_neg h, if_neg h, Int.sub_zero]

theorem secAdj_fs (st : PState) : (secAdj st).2.2 = fsOf st := by rw [secAdj_eq]

theorem secAdj_year (st : PState) : (secAdj st).1.year = (adjTm st).year := by rw [secAdj_eq]

theorem secAdj_off (st : PState) :
    (secAdj st).2.1 = st.offset - (if (adjTm st).sec = 60 then 1 else 0) := by rw [secAdj_eq]

theorem leap_range (st : PState) :
    0 ≤ (if (adjTm st).sec = 60 then (1 : Int) else 0) ∧ (if (adjTm st).sec = 60 then (1 : Int) else 0) ≤ 1 := by
  split <;> decide

theorem fsOf_range {sp : Strptime} {st : PState} (hI : Inv sp st) : 0 ≤ fsOf st ∧ fsOf st < 1000000000000000 := by
  unfold fsOf
  split
  · decide
  · exact hI.sub

/-- what the adjusted fields and offset denote together does not depend on the adjustment -/
theorem secAdj_unnorm (st : PState) (y : Int) :
    unnormSec y ((secAdj st).1.mon + 1) (secAdj st).1.mday (secAdj st).1.hour (secAdj st).1.min (secAdj st).1.sec
      - (secAdj st).2.1 =
    unnormSec y ((adjTm st).mon + 1) (adjTm st).mday (adjTm st).hour (adjTm st).min (adjTm st).sec
      - st.offset := by
  rw [secAdj_eq]
  simp only [unnormSec]
  split <;> omega

/-! ### `afterS` without a week number -/

theorem yearOpt_eq (st : PState) :
    yearOpt st (secAdj st).1 =
      if st.sawYear = false ∧ (adjTm st).year > i64max - 1900 then none else some (yearOf st) := by
  unfold yearOpt yearOf
  rw [secAdj_year]
  cases st.sawYear <;> simp

theorem afterS_noweek (st : PState) (z : Zone) (hw : st.weekNum = -1) :
    afterS st z =
      if (secAdj st).1.sec > 59 then .fail
      else if st.sawYear = false ∧ (adjTm st).year > i64max - 1900 then .fail
      else civilPart (ptzOf st z) (yearOf st) (secAdj st).1 (secAdj st).2.1 (secAdj st).2.2 := by
  unfold afterS
  simp only []
  refine ite_congr rfl (fun _ => rfl) (fun _ => ?_)
  rw [yearOpt_eq]
  by_cases hy : st.sawYear = false ∧ (adjTm st).year > i64max - 1900
  · rw [if_pos hy, if_pos hy]
  · rw [if_neg hy, if_neg hy]
    simp only [weekVal, hw, ne_eq, not_true_eq_false, if_false]
    rfl

/-- after the repair F20 a successful parse never carries a seconds value above the leap second -/
theorem afterS_sec (st : PState) (z : Zone) (t fs : Int) (h : afterS st z = .ok t fs) :
    (adjTm st).sec ≤ 60 := by
  unfold afterS at h
  simp only [] at h
  split at h
  · cases h
  · rename_i hs
    rw [secAdj_eq] at hs
    dsimp only at hs
    split at hs <;> omega

theorem civilPart_ok (ptz : Zone) (year : Int) (tm : Tm) (off fs t fs' : Int)
    (h : civilPart ptz year tm off fs = .ok t fs') :
    finish ptz (Civil.civilSub .second
      (Civil.civilNew .second year (tm.mon + 1) tm.mday tm.hour tm.min tm.sec).val off).val fs = .ok t fs' := by
  unfold civilPart at h
  simp only [] at h
  split at h
  · cases h
  · split at h
    · cases h
    · exact h

/-- with an in-range time of day the constructor check is exactly "the date exists" -/
theorem civilPart_tod (ptz : Zone) (year : Int) (tm : Tm) (off fs : Int)
    (h1 : 0 ≤ tm.hour ∧ tm.hour ≤ 23) (h2 : 0 ≤ tm.min ∧ tm.min ≤ 59) (h3 : 0 ≤ tm.sec ∧ tm.sec ≤ 59) :
    civilPart ptz year tm off fs =
      if Valid (tmFields year tm) then
        (if guardVal (tmFields year tm) off = true then .fail
         else finish ptz (Civil.civilSub .second (tmFields year tm) off).val fs)
      else .fail := by
  unfold civilPart
  simp only []
  by_cases hv : Valid (tmFields year tm)
  · rw [if_pos hv]
    have e : (Civil.civilNew .second year (tm.mon + 1) tm.mday tm.hour tm.min tm.sec).val = tmFields year tm :=
      Wr.civilNew_valid (tmFields year tm) hv
    rw [e]
    rw [if_neg (fun h => h.elim (fun h => h rfl) (fun h => h rfl))]
  · rw [if_neg hv]
    rw [if_pos]
    apply Classical.byContradiction
    intro hc
    have hm : (Civil.civilNew .second year (tm.mon + 1) tm.mday tm.hour tm.min tm.sec).val.m = tm.mon + 1 := by
      omega
    have hd : (Civil.civilNew .second year (tm.mon + 1) tm.mday tm.hour tm.min tm.sec).val.d = tm.mday := by
      omega
    exact hv (no_norm year (tm.mon + 1) tm.mday tm.hour tm.min tm.sec h1 h2 h3 hm hd).2

/-! ### `finish` in an arbitrary zone -/

theorem finish_ok (ptz : Zone) (cs : Fields) (fs t fs' : Int) :
    finish ptz cs fs = .ok t fs' ↔
      t = (makeTime ptz 0 cs).val.1.pre ∧ fs' = fs ∧
      ¬ (t = i64max ∧ Civil.lt (breakTime ptz 0 i64max).val.1.cs cs = true) ∧
      ¬ (t = i64min ∧ Civil.lt cs (breakTime ptz 0 i64min).val.1.cs = true) := by
  unfold finish
  simp only []
  generalize (makeTime ptz 0 cs).val.1.pre = tp
  split
  · rename_i h
    constructor
    · intro hc; cases hc
    · rintro ⟨rfl, _, hn, _⟩; exact absurd h hn
  · rename_i h
    split
    · rename_i h'
      constructor
      · intro hc; cases hc
      · rintro ⟨rfl, _, _, hn⟩; exact absurd h' hn
    · rename_i h'
      constructor
      · intro hc
        simp only [Result.ok.injEq] at hc
        obtain ⟨rfl, rfl⟩ := hc
        exact ⟨rfl, rfl, h, h'⟩
      · rintro ⟨rfl, rfl, _, _⟩; rfl

theorem secNum_le_cmax (f : Fields) (hv : Valid f) (hy : f.y ≤ i64max) : secNum f ≤ secNum Wr.cmaxF := by
  apply Int.not_lt.1
  intro hlt
  have hl := (secNum_lt_iff_lex Wr.valid_cmaxF hv).1 hlt
  obtain ⟨h1, h2, h3, h4, h5, h6, h7, h8, h9, h10⟩ := hv
  have p := daysInMonth_pos f.y f.m
  simp only [FieldsLex, DateLex, Wr.cmaxF] at hl
  omega

theorem yearOf_fits (sp : Strptime) (st : PState) (hI : Inv sp st)
    (h : ¬ (st.sawYear = false ∧ (adjTm st).year > i64max - 1900)) : yearOf st ≤ i64max := by
  unfold yearOf
  by_cases hs : st.sawYear = true
  · rw [if_pos hs]; exact (hI.yr hs).2
  · rw [if_neg hs]
    have : st.sawYear = false := by simpa using hs
    have h' : ¬ (adjTm st).year > i64max - 1900 := fun hc => h ⟨this, hc⟩
    omega

/-! ### fields and second number under `TodOK` -/

theorem adj_tod59 (st : PState) (h : TodOK (adjTm st)) :
    (0 ≤ (secAdj st).1.hour ∧ (secAdj st).1.hour ≤ 23) ∧ (0 ≤ (secAdj st).1.min ∧ (secAdj st).1.min ≤ 59) ∧
    (0 ≤ (secAdj st).1.sec ∧ (secAdj st).1.sec ≤ 59) := by
  unfold TodOK at h
  rw [secAdj_eq]
  dsimp only
  split <;> omega

theorem fieldsOf_eq (st : PState) (h : TodOK (adjTm st)) :
    tmFields (yearOf st) (secAdj st).1 = fieldsOf st := by
  have h60 := h.2.2.2.2.2
  rw [secAdj_eq]
  unfold tmFields fieldsOf
  dsimp only
  rw [show (if (adjTm st).sec = 60 then 59 else (adjTm st).sec) = min (adjTm st).sec 59 by split <;> omega]

theorem xOf_eq (st : PState) :
    secNum (fieldsOf st) - (secAdj st).2.1 = xOf st - st.offset := by
  rw [secAdj_off]
  unfold xOf
  omega

/-! ### with the time of day in range: success is "the date exists, the year fits, the guard does not fire,
and `finish` succeeds" -/

theorem afterS_tod (st : PState) (z : Zone) (hw : st.weekNum = -1) (htod : TodOK (adjTm st)) (t fs : Int) :
    afterS st z = .ok t fs ↔
      Valid (fieldsOf st) ∧ ¬ (st.sawYear = false ∧ (adjTm st).year > i64max - 1900) ∧
      ¬ guardVal (fieldsOf st) (secAdj st).2.1 = true ∧
      finish (ptzOf st z) (Civil.civilSub .second (fieldsOf st) (secAdj st).2.1).val (fsOf st) = .ok t fs := by
  obtain ⟨t1, t2, t3⟩ := adj_tod59 st htod
  rw [afterS_noweek st z hw, if_neg (by omega), civilPart_tod _ _ _ _ _ t1 t2 t3, fieldsOf_eq st htod,
    secAdj_fs]
  split
  · exact ⟨fun h => Result.noConfusion h, fun h => absurd ‹_› h.2.1⟩
  split
  · split
    · exact ⟨fun h => Result.noConfusion h, fun h => absurd ‹_› h.2.2.1⟩
    · exact ⟨fun h => ⟨‹_›, ‹_›, ‹_›, h⟩, fun h => h.2.2.2⟩
  · exact ⟨fun h => Result.noConfusion h, fun h => absurd h.1 ‹_›⟩

/-! ### with a parsed offset: complete characterisation -/

theorem offset_iff (sp : Strptime) (st : PState) (z : Zone) (hI : Inv sp st) (hw : st.weekNum = -1)
    (htod : TodOK (adjTm st)) (hso : st.sawOffset = true) (t fs : Int) :
    afterS st z = .ok t fs ↔
      Valid (fieldsOf st) ∧ inI64 (xOf st - st.offset) ∧ t = xOf st - st.offset ∧ fs = fsOf st := by
  rw [afterS_tod st z hw htod, show ptzOf st z = Tl.fixedZone 0 from if_pos hso]
  refine and_congr_right fun hv => ?_
  obtain ⟨vC, sC⟩ := civilSub_second (fieldsOf st) (secAdj st).2.1 hv
  rw [finish_utc _ _ vC, sC, xOf_eq st]
  constructor
  · rintro ⟨_, _, h⟩
    split at h
    · cases h; exact ⟨‹_›, rfl, rfl⟩
    · cases h
  · rintro ⟨hin, rfl, rfl⟩
    -- the year fits and the guard does not fire
    have hoff := secAdj_off st
    have hoR := hI.offR
    have hx : xOf st = secNum (fieldsOf st) + (if (adjTm st).sec = 60 then 1 else 0) := rfl
    have hl := leap_range st
    generalize (if (adjTm st).sec = 60 then (1 : Int) else 0) = l at hl hoff hx
    have hb : -9223372036854862208 ≤ secNum (fieldsOf st) ∧ secNum (fieldsOf st) ≤ 9223372036854862208 := by
      unfold inI64 i64min i64max at hin
      omega
    have hyb := Wr.year_bounds (fieldsOf st) hv hb.1 hb.2
    refine ⟨?_, ?_, if_pos hin⟩
    · rintro ⟨h1, h2⟩
      have : (fieldsOf st).y = (adjTm st).year + 1900 := by
        show yearOf st = _; unfold yearOf; rw [h1]; rfl
      unfold i64max at h2; omega
    · rw [guardVal_iff _ _ hv, Wr.secNum_cmaxF, Wr.secNum_cminF]
      omega

/-! ### without an offset: complete characterisation -/

theorem zone_iff (sp : Strptime) (st : PState) (z : Zone) (hI : Inv sp st) (hw : st.weekNum = -1)
    (htod : TodOK (adjTm st)) (hso : st.sawOffset = false) (t fs : Int) :
    afterS st z = .ok t fs ↔
      Valid (fieldsOf st) ∧ xOf st ≤ secNum Wr.cmaxF ∧
      ∃ C, Valid C ∧ secNum C = xOf st ∧ t = (makeTime z 0 C).val.1.pre ∧ fs = fsOf st ∧
        ¬ (t = i64max ∧ Civil.lt (breakTime z 0 i64max).val.1.cs C = true) ∧
        ¬ (t = i64min ∧ Civil.lt C (breakTime z 0 i64min).val.1.cs = true) := by
  rw [afterS_tod st z hw htod, show ptzOf st z = z from if_neg (by rw [hso]; decide), finish_ok]
  refine and_congr_right fun hv => ?_
  obtain ⟨vC, sC⟩ := civilSub_second (fieldsOf st) (secAdj st).2.1 hv
  have hxo := xOf_eq st
  rw [hI.off0 hso, Int.sub_zero] at hxo
  rw [hxo] at sC
  have hoff := secAdj_off st
  rw [hI.off0 hso] at hoff
  have hx : xOf st = secNum (fieldsOf st) + (if (adjTm st).sec = 60 then 1 else 0) := rfl
  have hl := leap_range st
  generalize (if (adjTm st).sec = 60 then (1 : Int) else 0) = l at hl hoff hx
  rw [guardVal_iff _ _ hv]
  constructor
  · rintro ⟨hy1, hg, hf⟩
    have hle := secNum_le_cmax _ hv (yearOf_fits sp st hI hy1)
    exact ⟨by omega, _, vC, sC, hf⟩
  · rintro ⟨hx', C, vC', sC', hf⟩
    obtain rfl : C = (Civil.civilSub .second (fieldsOf st) (secAdj st).2.1).val :=
      secNum_inj vC' vC (by rw [sC', sC])
    have hy1 : ¬ (st.sawYear = false ∧ (adjTm st).year > i64max - 1900) := by
      intro hy1
      have hy : i64max < (fieldsOf st).y := by
        show _ < yearOf st; unfold yearOf; rw [hy1.1]; simp only [Bool.false_eq_true, if_false]; omega
      have := secNum_lt_of_lex Wr.valid_cmaxF hv (Or.inl (Or.inl hy))
      omega
    have hle := secNum_le_cmax _ hv (yearOf_fits sp st hI hy1)
    exact ⟨hy1, by omega, hf⟩

/-! ### any `strptime`: what the result is, without assuming the time of day in range -/

theorem general_denote (st : PState) (z : Zone) (hw : st.weekNum = -1) (t fs : Int)
    (h : afterS st z = .ok t fs) :
    ∃ C, Valid C ∧
      secNum C = unnormSec (yearOf st) ((adjTm st).mon + 1) (adjTm st).mday (adjTm st).hour (adjTm st).min
        (adjTm st).sec - st.offset ∧
      t = (makeTime (ptzOf st z) 0 C).val.1.pre ∧ fs = fsOf st ∧
      ¬ (t = i64max ∧ Civil.lt (breakTime (ptzOf st z) 0 i64max).val.1.cs C = true) ∧
      ¬ (t = i64min ∧ Civil.lt C (breakTime (ptzOf st z) 0 i64min).val.1.cs = true) := by
  rw [afterS_noweek st z hw] at h
  split at h
  · cases h
  split at h
  · cases h
  have hf := civilPart_ok _ _ _ _ _ _ _ h
  obtain ⟨vN, sN⟩ := civilNew_second (yearOf st) ((secAdj st).1.mon + 1) (secAdj st).1.mday (secAdj st).1.hour
    (secAdj st).1.min (secAdj st).1.sec
  obtain ⟨vC, sC⟩ := civilSub_second _ (secAdj st).2.1 vN
  rw [sN, secAdj_unnorm] at sC
  rw [finish_ok, secAdj_fs] at hf
  exact ⟨_, vC, sC, hf⟩

/-! ### the part of `tailVal` before the civil second -/

theorem tailVal_ok (st : PState) (z : Zone) (t fs : Int) :
    tailVal st z = .ok t fs ↔
      ∃ d, st.data = some d ∧ skipSpace d = [] ∧
        (if st.sawPercentS = true then t = st.percentS ∧ fs = 0 else afterS st z = .ok t fs) := by
  unfold tailVal
  cases hd : st.data with
  | none => simp
  | some d =>
    simp only [Option.some.injEq, exists_eq_left']
    by_cases he : skipSpace d = []
    · simp only [he, List.isEmpty_nil, Bool.not_true, Bool.false_eq_true, if_false, true_and]
      by_cases hs : st.sawPercentS = true
      · simp only [hs, if_true, Result.ok.injEq]
        constructor
        · rintro ⟨rfl, rfl⟩; exact ⟨rfl, rfl⟩
        · rintro ⟨rfl, rfl⟩; exact ⟨rfl, rfl⟩
      · simp only [hs, Bool.false_eq_true, if_false]
    · have : (!(skipSpace d).isEmpty) = true := by simpa using he
      simp only [this, if_true, he, false_and]
      constructor
      · intro h; cases h
      · intro h; exact h.elim

end Cctz.Pd
