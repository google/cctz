/-
  Bytes of strings.  `ofString` without `ByteArray.toList`: that function recurses on a measure, which the
  kernel evaluates slowly, while `Array.toList` is a projection.  Closed facts about
  `ofString "…"` are rewritten with `ofString_eq` before they are evaluated.
-/
import Cctz.Model.Bytes

namespace Cctz.Bytes

theorem toList_loop_eq (bs : ByteArray) : ∀ (n i : Nat) (r : List UInt8), bs.size - i = n →
    ByteArray.toList.loop bs i r = r.reverse ++ bs.data.toList.drop i := by
  have hsz : bs.data.toList.length = bs.size := Array.length_toList
  intro n
  induction n with
  | zero =>
    intro i r h
    rw [ByteArray.toList.loop, if_neg (by omega), List.drop_eq_nil_of_le (by omega), List.append_nil]
  | succ n ih =>
    intro i r h
    have hi : i < bs.data.toList.length := by omega
    rw [ByteArray.toList.loop, if_pos (by omega), ih (i + 1) _ (by omega), List.reverse_cons, List.append_assoc,
      List.drop_eq_getElem_cons hi]
    congr 1
    show bs.data[i]! :: _ = _
    rw [getElem!_pos bs.data i (by omega), Array.getElem_toList]
    rfl

theorem ofString_eq (s : String) : ofString s = s.toUTF8.data.toList :=
  toList_loop_eq _ _ 0 [] rfl

/-- a string without NUL is its own C string -/
theorem cstr_of_noNul (s : Bytes) (h : ∀ c ∈ s, c ≠ 0) : cstr s = s := by
  unfold cstr
  induction s with
  | nil => rfl
  | cons a r ih =>
    have ha : a ≠ 0 := h a (List.mem_cons_self ..)
    rw [List.takeWhile_cons, if_pos (by simpa using ha), ih fun c hc => h c (List.mem_cons_of_mem _ hc)]

end Cctz.Bytes
