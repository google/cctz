/-
  C01Decode helper proofs: when the tail of `Load` accepts.  Without a footer
  `ExtendTransitions` returns the table unchanged; the civil-order check of the civil-column pass
  succeeds exactly when consecutive entries show increasing local civil seconds.
-/
import Cctz.Proofs.DcMain
import Cctz.Proofs.TableLookup

namespace Cctz.Dc
open Cctz Cctz.Tz Cctz.Spec Cctz.Lt Cctz.C01Decode

theorem extend_nofooter (z : Zone) (h : z.futureSpec = []) :
    (extendTransitions z).val = some { z with extended := false } := by
  unfold extendTransitions
  dsimp only
  rw [if_pos (by rw [h]; rfl)]
  rfl

/-- the civil-order check passes on a table whose entries show increasing local civil seconds -/
theorem fillCivil_some (z : Zone)
    (hord : ∀ k, k + 1 < z.transitions.size → timeOf z k + offOf z k < timeOf z (k + 1) + offOf z (k + 1)) :
    ∃ z', (fillCivil z).val = some z' :=
  ⟨_, (fillCivil_val_iff z _).2 ⟨fun k hk => by
    rw [lt_iff_secNum (mkTr_civil z k).1 (mkTr_civil z (k + 1)).1, (mkTr_civil z k).2,
      (mkTr_civil z (k + 1)).2]
    exact hord k hk, rfl⟩⟩

/-! ### the table with both sentinels -/

theorem pairsOf_addSecondSentinel (z : Zone) :
    pairsOf (addSecondSentinel z).transitions =
      match (pairsOf z.transitions).getLast? with
      | some last => if last.1 < 0 then pairsOf z.transitions ++ [(2147483647, last.2)]
          else pairsOf z.transitions
      | none => pairsOf z.transitions := by
  unfold addSecondSentinel
  dsimp only
  rcases List.eq_nil_or_concat z.transitions.toList with hnil | ⟨pre, x, hx⟩
  · have hz : z.transitions = #[] := by
      apply Array.ext'; rw [hnil]
    have hg : (getTrans z (z.transitions.size - 1)).val = default := by
      unfold getTrans; rw [hz]; rfl
    rw [hg]
    have hp : pairsOf z.transitions = [] := by unfold pairsOf; rw [hnil]; rfl
    rw [hp, if_neg (by decide)]
    exact hp
  · rw [List.concat_eq_append] at hx
    have hsz : z.transitions.size = pre.length + 1 := by
      rw [← Array.length_toList, hx]; simp
    have hg : (getTrans z (z.transitions.size - 1)).val = x := by
      rw [Tl.getTrans_val, trn_toList, hx, hsz, Nat.add_sub_cancel,
        List.getElem?_append_right (Nat.le_refl _), Nat.sub_self]
      rfl
    rw [hg]
    have hp : pairsOf z.transitions = pre.map (fun t => (t.unixTime, t.typeIndex)) ++
        [(x.unixTime, x.typeIndex)] := by
      unfold pairsOf; rw [hx, List.map_append]; rfl
    rw [hp, List.getLast?_concat]
    dsimp only
    split
    · rw [← hp]
      show pairsOf (z.transitions.push _) = _
      rw [pairsOf_push]
      rfl
    · exact hp

/-! ### a file without footer rule and with increasing local civil seconds loads -/

theorem typ_utoff (z : Zone) (d : TzData) (h : z.types = rawTypes d) (i : Nat) :
    (typ z i).utcOffset = d.utoff i := by
  rw [typ_toList, h]
  unfold rawTypes TzData.utoff
  rw [List.toList_toArray, List.getElem?_map]
  cases d.types[i]? <;> rfl

theorem loc_eq (z : Zone) (d : TzData) (h : z.types = rawTypes d) (k : Nat)
    (hk : k < z.transitions.size) :
    ((pairsOf z.transitions).map fun p => p.1 + d.utoff p.2)[k]? = some (timeOf z k + offOf z k) := by
  unfold pairsOf timeOf offOf
  rw [List.getElem?_map, List.getElem?_map, typ_utoff z d h, trn_toList,
    List.getElem?_eq_getElem (by simpa using hk)]
  rfl

theorem addSecondSentinel_types (z : Zone) : (addSecondSentinel z).types = z.types := by
  unfold addSecondSentinel
  dsimp only
  split <;> rfl

theorem accept_nofooter (d : TzData) (hlen : d.times.length = d.idxs.length) (hf : d.footer = [])
    (hc : CivilOrderOK d) : ∃ z, finish (zoneOf d) = .ok z := by
  unfold finish
  rw [extend_nofooter (zoneOf d) hf]
  dsimp only
  generalize hz2 : addSecondSentinel { zoneOf d with extended := false } = z2
  have htypes : z2.types = rawTypes d := by rw [← hz2, addSecondSentinel_types]; rfl
  have hp : pairsOf z2.transitions = fullTable d := by
    rw [← hz2, pairsOf_addSecondSentinel]
    show (match (pairsOf (withFirst (rawTrans d) (specDefaultType d))).getLast? with
      | some last => if last.1 < 0 then pairsOf (withFirst (rawTrans d) (specDefaultType d)) ++
          [(2147483647, last.2)] else pairsOf (withFirst (rawTrans d) (specDefaultType d))
      | none => pairsOf (withFirst (rawTrans d) (specDefaultType d))) = _
    rw [pairsOf_withFirst d _ hlen]
    rfl
  have hord : ∀ k, k + 1 < z2.transitions.size →
      timeOf z2 k + offOf z2 k < timeOf z2 (k + 1) + offOf z2 (k + 1) := by
    intro k hk
    unfold CivilOrderOK at hc
    rw [← hp, List.pairwise_iff_getElem] at hc
    have hsz : ((pairsOf z2.transitions).map fun p => p.1 + d.utoff p.2).length = z2.transitions.size := by
      simp [pairsOf]
    have := hc k (k + 1) (by rw [hsz]; omega) (by rw [hsz]; exact hk) (by omega)
    have e1 := loc_eq z2 d htypes k (by omega)
    have e2 := loc_eq z2 d htypes (k + 1) hk
    rw [List.getElem?_eq_getElem (by rw [hsz]; omega)] at e1
    rw [List.getElem?_eq_getElem (by rw [hsz]; exact hk)] at e2
    rw [Option.some.inj e1, Option.some.inj e2] at this
    exact this
  obtain ⟨z3, h3⟩ := fillCivil_some z2 hord
  rw [h3]
  exact ⟨_, rfl⟩

end Cctz.Dc
