/-
  C++ truncating division/remainder (`cdiv`/`cmod` = `Int.tdiv`/`Int.tmod`) against floor
  division, which `omega` understands.  For a proof about ranges the linear facts `cdiv_cmod`
  and `cmod_range` are the cheap way in; `cdiv_eq`/`cmod_eq` bring in a case split each.
-/
import Cctz.Model.Ck

namespace Cctz

theorem inI64_of_bounds {x : Int} (h : -9223372036854775808 ≤ x ∧ x ≤ 9223372036854775807) :
    inI64 x := h

theorem inI64_small (x : Int) (h1 : -100000 < x) (h2 : x < 100000) : inI64 x := by
  unfold inI64 i64min i64max; omega

theorem cdiv_eq (a k : Int) : cdiv a k = if 0 ≤ a then a / k else -((-a) / k) := by
  unfold cdiv; split
  · exact Int.tdiv_eq_ediv_of_nonneg ‹_›
  · rw [← Int.tdiv_eq_ediv_of_nonneg (by omega), Int.neg_tdiv, Int.neg_neg]

theorem cmod_eq (a k : Int) : cmod a k = if 0 ≤ a then a % k else -((-a) % k) := by
  unfold cmod; split
  · exact Int.tmod_eq_emod_of_nonneg ‹_›
  · rw [← Int.tmod_eq_emod_of_nonneg (by omega), Int.neg_tmod, Int.neg_neg]

theorem cdiv_of_nonneg {a : Int} (k : Int) (h : 0 ≤ a) : cdiv a k = a / k :=
  Int.tdiv_eq_ediv_of_nonneg h

theorem cmod_of_nonneg {a : Int} (k : Int) (h : 0 ≤ a) : cmod a k = a % k :=
  Int.tmod_eq_emod_of_nonneg h

theorem cdiv_cmod (a k : Int) : k * cdiv a k + cmod a k = a := by
  unfold cdiv cmod; have := Int.tmod_def a k; omega

theorem cmod_range (a : Int) {k : Int} (hk : 0 < k) : -k < cmod a k ∧ cmod a k < k :=
  ⟨Int.lt_tmod_of_pos a hk, Int.tmod_lt_of_pos a hk⟩

theorem cmod_sign (a k : Int) : (0 ≤ a → 0 ≤ cmod a k) ∧ (a ≤ 0 → cmod a k ≤ 0) := by
  refine ⟨Int.tmod_nonneg k, fun h => ?_⟩
  have := Int.tmod_nonneg (a := -a) k (by omega)
  rw [Int.neg_tmod] at this
  unfold cmod; omega

/-! ### from a decomposition `x = k * q + r` to the floor quotient and remainder -/

theorem ediv_emod_of_split {x q r k : Int} (hk : k ≠ 0) (h : k * q + r = x) :
    q + r / k = x / k ∧ r % k = x % k := by
  subst h
  rw [Int.add_comm (k * q) r, Int.add_mul_ediv_left _ _ hk, Int.add_mul_emod_self_left]
  exact ⟨Int.add_comm _ _, rfl⟩

theorem ediv_emod_eq {x q r k : Int} (hk : 0 < k) (h : k * q + r = x) (h0 : 0 ≤ r) (h1 : r < k) :
    q = x / k ∧ r = x % k := by
  have := (Int.ediv_emod_unique (a := x) (r := r) (q := q) hk).2 ⟨by omega, h0, h1⟩
  exact ⟨this.1.symm, this.2.symm⟩

/-! ### the carries of `n_sec` / `n_min` / `n_hour`

A truncated quotient and remainder are handed on either unchanged, or added to another pair, or
after a borrow when the remainder is negative; the next level divides the remainder again. -/

theorem cdiv_add_ediv (a : Int) {k : Int} (hk : k ≠ 0) :
    cdiv a k + cmod a k / k = a / k ∧ cmod a k % k = a % k :=
  ediv_emod_of_split hk (cdiv_cmod a k)

theorem cdiv_add_cdiv (a b : Int) {k : Int} (hk : k ≠ 0) :
    cdiv a k + cdiv b k + (cmod a k + cmod b k) / k = (a + b) / k ∧
      (cmod a k + cmod b k) % k = (a + b) % k :=
  ediv_emod_of_split hk (by have := cdiv_cmod a k; have := cdiv_cmod b k; rw [Int.mul_add]; omega)

theorem floor_of_neg {a k : Int} (hk : 0 < k) (h : cmod a k < 0) :
    cdiv a k - 1 = a / k ∧ cmod a k + k = a % k :=
  ediv_emod_eq hk (by have := cdiv_cmod a k; rw [Int.mul_sub]; omega)
    (by have := cmod_range a hk; omega) (by omega)

theorem floor_of_nonneg {a k : Int} (hk : 0 < k) (h : ¬ cmod a k < 0) :
    cdiv a k = a / k ∧ cmod a k = a % k :=
  ediv_emod_eq hk (cdiv_cmod a k) (by omega) (cmod_range a hk).2

theorem cmod_eq_zero_iff (a k : Int) (hk : 0 < k) : cmod a k = 0 ↔ a % k = 0 := by
  by_cases h : cmod a k < 0
  · have := floor_of_neg hk h; have := cmod_range a hk; omega
  · have := floor_of_nonneg hk h; omega

end Cctz
