/-
  C01 (continued) — gluing: for an extended table, lookup(t) at ANY instant after the recorded
  transitions reports the footer rule evaluated on the proleptic Gregorian calendar at t itself
  (arbitrarily far into the future), although the code only tabulates 402 years and shifts by
  multiples of 400 years.

  The first wording of this property (kept below as `lookup_follows_rule_first_wording`) was FALSE
  and nearly vacuous; see `first_wording_false` and `extendedBy_degenerate`.  The statement
  takes the generated part of the table column-wise (`ExtendedKeys`) and assumes `Regular`; that
  clause 1 of `Regular` cannot be dropped even when `y0` is the civil year of the last recorded
  transition is `regular_needed` (a table on which `BreakTime` disagrees with the rule).
-/
import Cctz.Model.Tz
import Cctz.Spec.PosixRule
import Cctz.Spec.TableSem
import Cctz.Properties.C01
import Cctz.Properties.C01Rule
import Cctz.Proofs.RuleGlue
import Cctz.Proofs.RgExample
import Cctz.Proofs.RgWitness

namespace Cctz.C01Glue
open Cctz Cctz.Tz Cctz.Spec

/-- a rule: both dates and times, the two offsets -/
structure Rule where
  sd : Posix.Date
  st : Int
  ed : Posix.Date
  et : Int
  stdOff : Int
  dstOff : Int

/-- `a` is a rule instant of year `y`: a start of DST (`kind = true`) or an end (`kind = false`) -/
def IsRuleInstant (r : Rule) (y : Int) (a : Int) (kind : Bool) : Prop :=
  (kind = true ∧ ruleInstant r.sd r.st r.stdOff y = some a) ∨
  (kind = false ∧ ruleInstant r.ed r.et r.dstOff y = some a)

/-- the rule says DST is in force at `t` iff the latest rule instant at or before `t`, over the
years from `y0` on, is a start; `none` when there is no rule instant in `(lastRec, t]` at all -/
def RuleKindAt (r : Rule) (y0 : Int) (lastRec t : Int) (k : Option Bool) : Prop :=
  match k with
  | none => ∀ y a kind, y0 ≤ y → IsRuleInstant r y a kind → ¬ (lastRec < a ∧ a ≤ t)
  | some kind => ∃ y a, y0 ≤ y ∧ IsRuleInstant r y a kind ∧ lastRec < a ∧ a ≤ t ∧
      ∀ y' b kind', y0 ≤ y' → IsRuleInstant r y' b kind' → b ≤ t → b ≤ a ∧ (b = a → kind' = kind)

/-- the two columns `ExtendTransitions` writes -/
def cols (x : Transition) : Int × Nat := (x.unixTime, x.typeIndex)

/-- the shape `ExtendTransitions` gives the table (theorem `C01Rule.extendLoop_trans`): the
recorded entries followed by entries that agree, in the time and type columns, with the year pairs
of the years y0 … y0+401 (`Load` fills the civil columns of all entries afterwards) -/
def ExtendedKeys (z : Zone) (r : Rule) (rec : List Transition) (y0 : Int) (dstTi stdTi : Nat) : Prop :=
  rec ≠ [] ∧ z.extended = true ∧
  (∃ gen : List Transition, z.transitions.toList = rec ++ gen ∧
    gen.map cols = ((List.range 402).flatMap (fun (k : Nat) =>
      C01Rule.yearPair { dstStart := ⟨some r.sd, some r.st⟩, dstEnd := ⟨some r.ed, some r.et⟩ } dstTi stdTi
        ((rec.getLast?.map (·.unixTime)).getD 0) r.stdOff r.dstOff (y0 + (k : Int)))).map cols) ∧
  (typ z dstTi).utcOffset = r.dstOff ∧ (typ z dstTi).isDst = true ∧
  (typ z stdTi).utcOffset = r.stdOff ∧ (typ z stdTi).isDst = false ∧
  DateInGrammar r.sd ∧ DateInGrammar r.ed

/-- Regularity of the recorded part (last recorded transition at `L`) against the rule tabulated
from year `y0` on:
 1. at least one rule instant of year `y0+1` is later than `L`.  Otherwise the 400-year window
    `[last - k400, last)` into which `BreakTime` maps later instants starts inside the recorded
    part, and the recorded types, not the rule, answer for the instants between the later rule
    instant of year `y0+401` and `L + k400` (`regular_needed`).
 2. every rule instant of the years `y0+2 … y0+401` is later than `L`.  Otherwise the copy, 400
    years on, of a dropped instant lies inside the tabulated range without being in the table.
 With `y0` the civil year of `L` (as `ExtendTransitions` takes it) clause 2 always holds for
 offsets and rule times within the grammar, and clause 1 holds unless both rule instants of year
 `y0+1` fall, by negative rule times, into the last days of civil year `y0` before `L`
 (`regular_of_civilYear`). -/
def Regular (r : Rule) (y0 L : Int) : Prop :=
  (∃ a kind, IsRuleInstant r (y0 + 1) a kind ∧ L < a) ∧
  (∀ y a kind, y0 + 2 ≤ y → y ≤ y0 + 401 → IsRuleInstant r y a kind → L < a)

/-- lookup(t) beyond the recorded transitions follows the rule at t itself, for every int64 t and
every hint: the type of the last recorded transition until the first rule instant after it, then
DST exactly when the latest rule instant at or before t is a start -/
def lookup_follows_rule_statement : Prop :=
  ∀ (z : Zone) (r : Rule) (rec : List Transition) (y0 : Int) (dstTi stdTi : Nat) (h : Nat) (t : Int),
    TableWF z → CivilCols z → ExtendedKeys z r rec y0 dstTi stdTi →
    Regular r y0 ((rec.getLast?.map (·.unixTime)).getD 0) →
    (rec.getLast?.map (·.unixTime)).getD 0 ≤ t →
    ∃ k, RuleKindAt r y0 ((rec.getLast?.map (·.unixTime)).getD 0) t k ∧
      let a := (breakTime z h t).val.1
      match k with
      | none => a.offset = (typ z ((rec.getLast?.map (·.typeIndex)).getD 0)).utcOffset ∧
                a.isDst = (typ z ((rec.getLast?.map (·.typeIndex)).getD 0)).isDst
      | some true => a.offset = r.dstOff ∧ a.isDst = true
      | some false => a.offset = r.stdOff ∧ a.isDst = false

/-- `Regular` in the terms of `ExtendTransitions`: the last recorded transition lies, in the local
time `offL` of its type, before the end of civil year `y0`; the rule times net of the offset
differences are less than 365 days negative and at least one of them is not negative -/
def regular_of_civilYear_statement : Prop :=
  ∀ (r : Rule) (y0 L offL : Int), DateInGrammar r.sd → DateInGrammar r.ed →
    L + offL < dayNum (y0 + 1) 1 1 * 86400 →
    -31536000 ≤ r.st - r.stdOff + offL → -31536000 ≤ r.et - r.dstOff + offL →
    (0 ≤ r.st - r.stdOff + offL ∨ 0 ≤ r.et - r.dstOff + offL) →
    Regular r y0 L

/-- clause 1 of `Regular` cannot be dropped: there is a table with all the other hypotheses, `y0`
the civil year of its last recorded transition, rule times within the ±167 h of the grammar and
clause 2 of `Regular`, and an instant at which the answer of `BreakTime` is not the rule's -/
def regular_needed_statement : Prop :=
  ∃ (z : Zone) (r : Rule) (rec : List Transition) (y0 : Int) (dstTi stdTi : Nat) (h : Nat) (t : Int),
    TableWF z ∧ CivilCols z ∧ ExtendedKeys z r rec y0 dstTi stdTi ∧
    dayNum y0 1 1 * 86400 ≤ (rec.getLast?.map (·.unixTime)).getD 0 +
      (typ z ((rec.getLast?.map (·.typeIndex)).getD 0)).utcOffset ∧
    (rec.getLast?.map (·.unixTime)).getD 0 +
      (typ z ((rec.getLast?.map (·.typeIndex)).getD 0)).utcOffset < dayNum (y0 + 1) 1 1 * 86400 ∧
    -601200 ≤ r.st ∧ r.st ≤ 601200 ∧ -601200 ≤ r.et ∧ r.et ≤ 601200 ∧
    (∀ y a kind, y0 + 2 ≤ y → y ≤ y0 + 401 → IsRuleInstant r y a kind →
      (rec.getLast?.map (·.unixTime)).getD 0 < a) ∧
    (rec.getLast?.map (·.unixTime)).getD 0 ≤ t ∧
    ¬ ∃ k, RuleKindAt r y0 ((rec.getLast?.map (·.unixTime)).getD 0) t k ∧
      let a := (breakTime z h t).val.1
      match k with
      | none => a.offset = (typ z ((rec.getLast?.map (·.typeIndex)).getD 0)).utcOffset ∧
                a.isDst = (typ z ((rec.getLast?.map (·.typeIndex)).getD 0)).isDst
      | some true => a.offset = r.dstOff ∧ a.isDst = true
      | some false => a.offset = r.stdOff ∧ a.isDst = false

/-! ## the first wording (false, and vacuous on real tables) -/

/-- first wording of the table shape: the generated entries are literally the `yearPair` values,
civil columns included (which are the 1970-01-01 defaults there) -/
def ExtendedBy (z : Zone) (r : Rule) (rec : List Transition) (y0 : Int) (dstTi stdTi : Nat) : Prop :=
  rec ≠ [] ∧ z.extended = true ∧
  z.transitions.toList = rec ++ (List.range 402).flatMap (fun (k : Nat) =>
    C01Rule.yearPair { dstStart := ⟨some r.sd, some r.st⟩, dstEnd := ⟨some r.ed, some r.et⟩ } dstTi stdTi
      ((rec.getLast?.map (·.unixTime)).getD 0) r.stdOff r.dstOff (y0 + (k : Int))) ∧
  (typ z dstTi).utcOffset = r.dstOff ∧ (typ z dstTi).isDst = true ∧
  (typ z stdTi).utcOffset = r.stdOff ∧ (typ z stdTi).isDst = false ∧
  DateInGrammar r.sd ∧ DateInGrammar r.ed

/-- first wording of the property: no regularity assumption, literal table shape -/
def lookup_follows_rule_first_wording : Prop :=
  ∀ (z : Zone) (r : Rule) (rec : List Transition) (y0 : Int) (dstTi stdTi : Nat) (h : Nat) (t : Int),
    TableWF z → CivilCols z → ExtendedBy z r rec y0 dstTi stdTi →
    (rec.getLast?.map (·.unixTime)).getD 0 ≤ t →
    ∃ k, RuleKindAt r y0 ((rec.getLast?.map (·.unixTime)).getD 0) t k ∧
      let a := (breakTime z h t).val.1
      match k with
      | none => a.offset = (typ z ((rec.getLast?.map (·.typeIndex)).getD 0)).utcOffset ∧
                a.isDst = (typ z ((rec.getLast?.map (·.typeIndex)).getD 0)).isDst
      | some true => a.offset = r.dstOff ∧ a.isDst = true
      | some false => a.offset = r.stdOff ∧ a.isDst = false

/-- the literal shape implies the column-wise one -/
def extendedBy_keys_statement : Prop :=
  ∀ (z : Zone) (r : Rule) (rec : List Transition) (y0 : Int) (dstTi stdTi : Nat),
    ExtendedBy z r rec y0 dstTi stdTi → ExtendedKeys z r rec y0 dstTi stdTi

/-- with the literal shape and `CivilCols`, two generated entries of the same type coincide: the
first wording speaks about tables with at most two generated entries only -/
def extendedBy_degenerate_statement : Prop :=
  ∀ (z : Zone) (r : Rule) (rec : List Transition) (y0 : Int) (dstTi stdTi : Nat),
    TableWF z → CivilCols z → ExtendedBy z r rec y0 dstTi stdTi →
    ∀ x y, x ∈ z.transitions.toList.drop rec.length → y ∈ z.transitions.toList.drop rec.length →
      x.typeIndex = y.typeIndex → x = y

/-! ## proofs (helper lemmas: Cctz/Proofs/RuleGlue.lean, RgOrder.lean, RgTable.lean, RgZone.lean,
RgCounter.lean, RgExample.lean, RgWitness.lean) -/

theorem isRuleInstant_iff (r : Rule) (gs : DateInGrammar r.sd) (ge : DateInGrammar r.ed)
    (y a : Int) (kind : Bool) :
    IsRuleInstant r y a kind ↔
      Rg.IsK (Rg.inst r.sd r.st r.stdOff) (Rg.inst r.ed r.et r.dstOff) y a kind := by
  unfold IsRuleInstant Rg.IsK
  rw [Rg.ruleInstant_some _ _ _ _ gs, Rg.ruleInstant_some _ _ _ _ ge]
  simp only [Option.some.injEq]
  rw [eq_comm (b := a), eq_comm (b := a)]

theorem ruleKindAt_iff (r : Rule) (gs : DateInGrammar r.sd) (ge : DateInGrammar r.ed)
    (y0 L t : Int) (k : Option Bool) :
    RuleKindAt r y0 L t k ↔
      Rg.KindAt (Rg.inst r.sd r.st r.stdOff) (Rg.inst r.ed r.et r.dstOff) y0 L t k := by
  unfold RuleKindAt Rg.KindAt
  cases k <;> simp only [isRuleInstant_iff r gs ge]

/-- `Regular` over the raw rule fields -/
theorem regular_iff (r : Rule) (y0 L : Int) :
    Regular r y0 L ↔ Rg.Regular r.sd r.st r.ed r.et r.stdOff r.dstOff y0 L := by
  unfold Regular Rg.Regular IsRuleInstant
  -- `kind` ranges over the two alternatives
  simp only [Bool.exists_bool, Bool.forall_bool, Bool.false_eq_true, false_and, false_or, true_and,
    or_false, reduceCtorEq]
  refine and_congr (exists_congr fun a => by rw [or_and_right, or_comm]) (forall_congr' fun y =>
    forall_congr' fun a => ⟨fun ⟨h1, h2⟩ ha hb h => h.elim (h2 ha hb) (h1 ha hb), fun h =>
      ⟨fun ha hb hp => h ha hb (Or.inr hp), fun ha hb hq => h ha hb (Or.inl hq)⟩⟩)

/-- the year pairs over the total instant functions -/
theorem yearPairs_eq (r : Rule) (gs : DateInGrammar r.sd) (ge : DateInGrammar r.ed)
    (rec : List Transition) (y0 : Int) (dstTi stdTi : Nat) :
    ((List.range 402).flatMap (fun (k : Nat) =>
      C01Rule.yearPair { dstStart := ⟨some r.sd, some r.st⟩, dstEnd := ⟨some r.ed, some r.et⟩ } dstTi stdTi
        ((rec.getLast?.map (·.unixTime)).getD 0) r.stdOff r.dstOff (y0 + (k : Int)))) =
    Rg.genList (Rg.inst r.sd r.st r.stdOff) (Rg.inst r.ed r.et r.dstOff) dstTi stdTi (Rg.lastTime rec) y0 := by
  unfold Rg.genList
  congr 1
  funext k
  rw [C01Rule.yearPair_eq _ dstTi stdTi _ r.stdOff r.dstOff r.sd r.ed r.st r.et rfl rfl]
  unfold Ru.yearPairL
  rw [Rg.ruleInstant_some _ _ _ _ gs, Rg.ruleInstant_some _ _ _ _ ge]
  rfl

theorem lookup_follows_rule : lookup_follows_rule_statement := by
  intro z r rec y0 dstTi stdTi h t wf cc hx hreg ht
  obtain ⟨hrec, hext, ⟨gen, hl, hkeys⟩, hdo, hdd, hso, hsd, gs, ge⟩ := hx
  rw [yearPairs_eq r gs ge] at hkeys
  obtain ⟨k, hk, ho, hd⟩ := Rg.glue_core z rec _ _ (Rg.inst_per r.sd r.st r.stdOff gs)
    (Rg.inst_per r.ed r.et r.dstOff ge) y0 dstTi stdTi h t wf cc hrec hext gen hl hkeys
    (Rg.reg_of_regular gs ge ((regular_iff r y0 _).1 hreg)) ht
  refine ⟨k, (ruleKindAt_iff r gs ge _ _ _ _).2 hk, ?_⟩
  match k with
  | none => exact ⟨ho, hd⟩
  | some true => exact ⟨by rw [ho]; exact hdo, by rw [hd]; exact hdd⟩
  | some false => exact ⟨by rw [ho]; exact hso, by rw [hd]; exact hsd⟩

theorem regular_of_civilYear : regular_of_civilYear_statement := by
  intro r y0 L offL gs ge hy hs he h1
  exact (regular_iff r y0 L).2 (Rg.regular_of_civilYear offL gs ge hy hs he h1)

/-! ### the hypotheses are satisfiable: New York after the 2007 transitions -/

/-- `EST5EDT,M3.2.0/2,M11.1.0/2` -/
def nyRule : Rule := ⟨Rg.nySd, 7200, Rg.nyEd, 7200, -18000, -14400⟩

theorem ny_extendedKeys : ExtendedKeys Rg.nyZone nyRule (Rg.fill Rg.nyTypes 0 Rg.nyRec) 2007 2 1 := by
  refine ⟨by decide, rfl, ?_, Rg.off_mkZone Rg.nyTypes 0 _ 2, Rg.dst_mkZone Rg.nyTypes 0 _ 2 (by decide),
    Rg.off_mkZone Rg.nyTypes 0 _ 1, Rg.dst_mkZone Rg.nyTypes 0 _ 1 (by decide), Rg.nySd_g, Rg.nyEd_g⟩
  rw [yearPairs_eq nyRule Rg.nySd_g Rg.nyEd_g]
  exact Rg.keys_mkZone_ext Rg.nyTypes 0 Rg.nyRec Rg.nyS Rg.nyE 2 1 1194156000 2007

theorem ny_regular : Regular nyRule 2007 1194156000 :=
  regular_of_civilYear nyRule 2007 1194156000 (-18000) Rg.nySd_g Rg.nyEd_g (by decide) (by decide)
    (by decide) (Or.inl (by decide))

/-- the hypotheses of `lookup_follows_rule` hold for the table made of the two 2007 transitions of
New York followed by the 804 rule instants of 2008 … 2408 (y0 = 2007, L = 2007-11-04 06:00:00 UTC) -/
example : TableWF Rg.nyZone ∧ CivilCols Rg.nyZone ∧
    ExtendedKeys Rg.nyZone nyRule (Rg.fill Rg.nyTypes 0 Rg.nyRec) 2007 2 1 ∧
    Regular nyRule 2007 (((Rg.fill Rg.nyTypes 0 Rg.nyRec).getLast?.map (·.unixTime)).getD 0) ∧
    ((Rg.fill Rg.nyTypes 0 Rg.nyRec).getLast?.map (·.unixTime)).getD 0 ≤ 4102444800 :=
  ⟨Rg.ny_wf, Rg.ny_cols, ny_extendedKeys, ny_regular, by decide⟩

/-! ### clause 1 of `Regular` is needed -/

/-- the POSIX string `XST0XDT,J1/` `-48,J2/` `-30` (start: January 1st minus 48 h, end: January 2nd minus 30 h) -/
def wRule : Rule := ⟨Rg.wSd, -172800, Rg.wEd, -108000, 0, 3600⟩

theorem w_extendedKeys : ExtendedKeys Rg.wZone wRule (Rg.fill Rg.wTypes 0 Rg.wRec) 2007 2 1 := by
  refine ⟨by decide, rfl, ?_, Rg.off_mkZone Rg.wTypes 0 _ 2, Rg.dst_mkZone Rg.wTypes 0 _ 2 (by decide),
    Rg.off_mkZone Rg.wTypes 0 _ 1, Rg.dst_mkZone Rg.wTypes 0 _ 1 (by decide), Rg.wSd_g, Rg.wEd_g⟩
  rw [yearPairs_eq wRule Rg.wSd_g Rg.wEd_g]
  exact Rg.w_keys

theorem regular_needed : regular_needed_statement := by
  refine ⟨Rg.wZone, wRule, Rg.fill Rg.wTypes 0 Rg.wRec, 2007, 2, 1, 0, 13821901200,
    Rg.w_wf, Rg.w_cols, w_extendedKeys, ?_, ?_, by decide, by decide, by decide, by decide, ?_,
    by decide, ?_⟩
  · show dayNum 2007 1 1 * 86400 ≤ 1199131200 + (typ Rg.wZone 1).utcOffset
    rw [Rg.w_off1]; decide
  · show 1199131200 + (typ Rg.wZone 1).utcOffset < dayNum (2007 + 1) 1 1 * 86400
    rw [Rg.w_off1]; decide
  · have h2 := Rg.regular2_of_civilYear (sd := Rg.wSd) (st := -172800) (ed := Rg.wEd) (et := -108000)
      (stdOff := 0) (dstOff := 3600) (y0 := 2007) (L := 1199131200) 0 Rg.wSd_g Rg.wEd_g
      (by decide) (by decide) (by decide)
    exact fun y a kind h1 h1' hk => h2 y a h1 h1' (hk.elim (fun h => Or.inl h.2) fun h => Or.inr h.2)
  · rintro ⟨k, hk, ha⟩
    have hk' := (ruleKindAt_iff wRule Rg.wSd_g Rg.wEd_g 2007 _ _ k).1 hk
    have := Rg.w_verdict k hk'
    subst this
    exact absurd (ha.1.symm.trans Rg.w_answer) (by decide)

/-! ### the first wording -/

theorem extendedBy_keys : extendedBy_keys_statement := by
  intro z r rec y0 dstTi stdTi ⟨h1, h2, h3, h4⟩
  exact ⟨h1, h2, ⟨_, h3, rfl⟩, h4⟩

theorem extendedBy_degenerate : extendedBy_degenerate_statement := by
  intro z r rec y0 dstTi stdTi wf cc hx x y hxm hym hty
  obtain ⟨_, _, hl, _, _, _, _, gs, ge⟩ := hx
  rw [yearPairs_eq r gs ge] at hl
  rw [hl, List.drop_left] at hxm hym
  -- a generated entry has the default civil column, whose second number is 0
  have key : ∀ w, w ∈ Rg.genList (Rg.inst r.sd r.st r.stdOff) (Rg.inst r.ed r.et r.dstOff) dstTi stdTi
      (Rg.lastTime rec) y0 → w.unixTime + (typ z w.typeIndex).utcOffset = 0 ∧
        w = { unixTime := w.unixTime, typeIndex := w.typeIndex } := by
    intro w hw
    obtain ⟨i, hi, e⟩ := Rg.mem_trn z w (by rw [hl]; exact List.mem_append_right _ hw)
    have hc := (cc.civ i hi).2
    unfold timeOf offOf at hc
    rw [e] at hc
    have h0 : secNum (⟨1970, 1, 1, 0, 0, 0⟩ : Fields) = 0 := by decide
    obtain ⟨yy, _, _, hh | hh⟩ := (Rg.mem_genList _ _ _ _ _ _ _).1 hw <;> rw [hh.1] at hc ⊢ <;>
      exact ⟨by rw [h0] at hc; omega, rfl⟩
  obtain ⟨hx0, hxe⟩ := key x hxm
  obtain ⟨hy0, hye⟩ := key y hym
  rw [hxe, hye]
  rw [hty] at hx0
  have : x.unixTime = y.unixTime := by omega
  rw [this, hty]

/-- the rule of the counterexample: `N0/0,N100/0`, standard offset 0, daylight offset 3600 -/
def ceRule : Rule := ⟨Rg.ce1Start, 0, Rg.ce1End, 0, 0, 3600⟩

/-- the hypotheses of the first wording hold for the one-entry table `Rg.ce1` with the years
1000 … 1401 tabulated (nothing is generated) -/
theorem ce_extendedBy : ExtendedBy Rg.ce1 ceRule (Rg.fill Rg.ce1Types 0 [(0, 1)]) 1000 2 1 := by
  refine ⟨by decide, rfl, ?_, rfl, rfl, rfl, rfl, ?_, ?_⟩
  · show Rg.ce1.transitions.toList = _ ++ (List.range 402).flatMap fun (k : Nat) =>
      C01Rule.yearPair { dstStart := ⟨some Rg.ce1Start, some 0⟩, dstEnd := ⟨some Rg.ce1End, some 0⟩ } 2 1
        0 0 3600 (1000 + (k : Int))
    rw [Rg.ce1_gen_empty, List.append_nil, Rg.ce1_list]
  · show DateInGrammar Rg.ce1Start
    unfold DateInGrammar Rg.ce1Start; decide
  · show DateInGrammar Rg.ce1End
    unfold DateInGrammar Rg.ce1End; decide

/-- the first wording is false: nothing ties `y0` to the last recorded transition, so all 402
tabulated years can lie before it; then nothing is generated and `BreakTime` maps every later
instant back before the first entry, i.e. to the default type -/
theorem first_wording_false : ¬ lookup_follows_rule_first_wording := by
  intro hst
  obtain ⟨k, hk, ha⟩ := hst Rg.ce1 ceRule (Rg.fill Rg.ce1Types 0 [(0, 1)]) 1000 2 1 0 1000000000
    Rg.ce1_wf Rg.ce1_cols ce_extendedBy (by decide)
  match k with
  | none =>
    exact hk 2000 946684800 true (by decide) (Or.inl ⟨rfl, Rg.ce1_instant⟩) ⟨by decide, by decide⟩
  | some true => exact absurd (ha.1.symm.trans Rg.ce1_answer) (by decide)
  | some false => exact absurd (ha.1.symm.trans Rg.ce1_answer) (by decide)

end Cctz.C01Glue
