/-
  C12Tables helper proofs: the built-in fixed-offset table is separated, has int64 times and room
  at its first entry (the column facts are in Cctz/Proofs/TlFixed.lean).
-/
import Cctz.Proofs.TlFixed
import Cctz.Spec.TableTame

namespace Cctz.Lt
open Cctz Cctz.Tz Cctz.Spec Cctz.Tl

theorem builtin_inI64 : ∀ i : Nat, i < 12 → inI64 (Gen.builtinUtcTransitions.getD i 0) := by
  decide

theorem fixed_separated (off : Int) : Separated (fixedZone off) := by
  intro i hi
  rw [fixed_size] at hi
  rw [fixed_timeOf off i (by omega), fixed_timeOf off (i + 1) hi, fixed_offOf off i (by omega),
    fixed_offOf off (i + 1) hi, fixed_offBefore off i (by omega), fixed_offBefore off (i + 1) hi]
  have := builtin_sorted i (i + 1) (by omega) hi
  omega

theorem fixed_timesInRange (off : Int) : TimesInRange (fixedZone off) := by
  intro i hi
  rw [fixed_size] at hi
  rw [fixed_timeOf off i hi]
  exact builtin_inI64 i hi

theorem fixed_firstEntryRoom (off : Int) : FirstEntryRoom (fixedZone off) := by
  unfold FirstEntryRoom
  rw [fixed_timeOf off 0 (by omega), fixed_offOf off 0 (by omega), fixed_offBefore off 0 (by omega)]
  have : Gen.builtinUtcTransitions.getD 0 0 = -576460752303423488 := rfl
  rw [this]
  unfold i64min
  omega

end Cctz.Lt
