/-
  For C17 (weekday / yearday) and the memory-safety proofs: the "no oob / fuel / unset flag"
  predicate `Safe` on the `Ck` writer monad.
-/
import Cctz.Model.Civil
import Cctz.Spec.Gregorian
import Cctz.Proofs.IntLemmas

namespace Cctz.Wd

/-! ### `Safe`: none of the flags `oob`, `fuel`, `unset` is raised (`ovf` may be) -/

def Safe (x : Ck α) : Prop :=
  x.flags.oob = false ∧ x.flags.fuel = false ∧ x.flags.unset = false

theorem safe_pure (a : α) : Safe (pure a : Ck α) := ⟨rfl, rfl, rfl⟩
theorem safe_chk64 (x : Int) : Safe (chk64 x) := ⟨rfl, rfl, rfl⟩

theorem safe_bind (x : Ck α) (f : α → Ck β) : Safe (x >>= f) ↔ Safe x ∧ Safe (f x.val) := by
  simp only [Safe, Ck.bind_flags, Flags.or, Bool.or_eq_false_iff]
  constructor
  · rintro ⟨⟨a, b⟩, ⟨c, d⟩, ⟨e, f⟩⟩; exact ⟨⟨a, c, e⟩, ⟨b, d, f⟩⟩
  · rintro ⟨⟨a, c, e⟩, ⟨b, d, f⟩⟩; exact ⟨⟨a, b⟩, ⟨c, d⟩, ⟨e, f⟩⟩

theorem safe_bind' (x : Ck α) (f : α → Ck β) : Safe (x.bind' f) ↔ Safe x ∧ Safe (f x.val) :=
  safe_bind x f

theorem safe_map (x : Ck α) (f : α → β) : Safe (f <$> x) ↔ Safe x := by
  simp only [Safe, Ck.map_flags]

theorem safe_of_ok (x : Ck α) (h : x.ok) : Safe x := by
  unfold Ck.ok at h; simp [Safe, h, Flags.none]

@[simp] theorem bind'_val (x : Ck α) (f : α → Ck β) : (x.bind' f).val = (f x.val).val := rfl

end Cctz.Wd
