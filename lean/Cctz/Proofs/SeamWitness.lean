/-
  Concrete tables for the seam theorems (Cctz/Properties/Seam.lean).
  * `zYear`: a small extended table on which every hypothesis holds (`SeamOK` included) — used for
    the satisfiability examples on the shift path and at the seam;
  * `zNewYear`: the shape `Load` gives a file whose footer rule starts DST one hour BEFORE New Year
    (footer date `J1` with time `-1`): all hypotheses except `SeamOK`; `convert` is not monotone and a skipped civil second
    is reported UNIQUE;
  * `zBelow`: only clause `below` of `SeamAt` fails (an instant before `last − k400` shows the first
    hour of year ly − 399); `convert` is not monotone;
  * `zStuck`: DST in force over the whole window `[last − k400, last)` while the last entry switches
    to standard time: the round trip fails;
  * `zEarly`: an extended UTC table ending in 1970: `SeamOK` holds, `ShiftRoom` does not, and the
    round trip fails just below max();
  * `newYearTzif`: the 148-byte TZif file behind `zNewYear`.
-/
import Cctz.Proofs.SeamDefs
import Cctz.Proofs.SeamCheck
import Cctz.Proofs.SeamCheckSound
import Cctz.Proofs.SeamSem
import Cctz.Proofs.RgZone

namespace Cctz.Seam
open Cctz Cctz.Tz Cctz.Spec Cctz.TableCheck

/-- standard time +1 h, daylight time +2 h -/
def wTypes : List (Int × Bool) := [(3600, false), (7200, true)]

/-! ### a table with every hypothesis -/

/-- DST from 2002-03-31 01:00 UTC to 2002-10-27 01:00 UTC and again from 2402-03-31 to 2402-10-27
(the same dates 400 years later); `lastYear = 2402` -/
def zYear : Zone :=
  { Rg.mkZone wTypes 0 [(1017536400, 1), (1035680400, 0), (13640317200, 1), (13658461200, 0)] with
    lastYear := some 2402 }

theorem zYear_wf : TableWF zYear :=
  wf_lastYear (Rg.wf_mkZone _ _ _ (by decide) (by decide) (by decide) (by decide)) _

theorem zYear_cols : CivilCols zYear := cols_lastYear (Rg.cols_mkZone _ _ _) _

theorem zYear_sep : Separated zYear := Lt.separatedb_sound _ (by decide +kernel)
theorem zYear_tir : TimesInRange zYear := Lt.timesInRangeb_sound _ (by decide +kernel)
theorem zYear_fer : FirstEntryRoom zYear := by unfold FirstEntryRoom; decide +kernel
theorem zYear_seam : SeamOK zYear := seamOKb_sound _ zYear_wf (by decide +kernel)
theorem zYear_room : ShiftRoom zYear := (shiftRoomb_iff _).1 (by decide +kernel)

/-! ### DST starting an hour before New Year -/

/-- entries: 2002-12-31 22:00 UTC → DST, 2003-06-29 00:00 UTC → standard, and the same two 400
years later minus one year (2401-12-31 22:00, 2402-06-29 00:00 UTC); `lastYear = 2402` -/
def zNewYear : Zone :=
  { Rg.mkZone wTypes 0 [(1041372000, 1), (1056844800, 0), (13632616800, 1), (13648089600, 0)] with
    lastYear := some 2402 }

theorem zNewYear_wf : TableWF zNewYear :=
  wf_lastYear (Rg.wf_mkZone _ _ _ (by decide) (by decide) (by decide) (by decide)) _

theorem zNewYear_cols : CivilCols zNewYear := cols_lastYear (Rg.cols_mkZone _ _ _) _

theorem zNewYear_sep : Separated zNewYear := Lt.separatedb_sound _ (by decide +kernel)
theorem zNewYear_tir : TimesInRange zNewYear := Lt.timesInRangeb_sound _ (by decide +kernel)
theorem zNewYear_fer : FirstEntryRoom zNewYear := by unfold FirstEntryRoom; decide +kernel
theorem zNewYear_room : ShiftRoom zNewYear := (shiftRoomb_iff _).1 (by decide +kernel)
theorem zNewYear_not_seam : seamOKb zNewYear = false := by decide +kernel

/-! ### only clause `below` fails -/

/-- +3 h until 2002-12-31 20:59:00 UTC, then +1 h; the last entry, 2402-12-31 23:00:00 UTC = New
Year 2403 local time, changes the type but not the offset; `lastYear = 2402`.  The instants just
before the first entry (they are before `last − k400` = 2002-12-31 23:00:00 UTC) show the first
hours of 2003. -/
def zBelow : Zone :=
  { Rg.mkZone [(3600, false), (10800, false), (3600, true)] 1 [(1041375540, 0), (13664156400, 2)] with
    lastYear := some 2402 }

theorem zBelow_wf : TableWF zBelow :=
  wf_lastYear (Rg.wf_mkZone _ _ _ (by decide) (by decide) (by decide) (by decide)) _

theorem zBelow_cols : CivilCols zBelow := cols_lastYear (Rg.cols_mkZone _ _ _) _

theorem zBelow_sep : Separated zBelow := Lt.separatedb_sound _ (by decide +kernel)
theorem zBelow_tir : TimesInRange zBelow := Lt.timesInRangeb_sound _ (by decide +kernel)
theorem zBelow_fer : FirstEntryRoom zBelow := by unfold FirstEntryRoom; decide +kernel
/-- the other three clauses hold -/
theorem zBelow_clauses :
    lastT zBelow + lastOff zBelow ≤ yearStart (2402 + 1) ∧
    lastT zBelow + lastOffBefore zBelow ≤ yearStart (2402 + 1) ∧
    allIdx (zBelow.transitions.size + 1) (belowAt zBelow 2402) = false ∧
    allIdx zBelow.transitions.size (windowAt zBelow 2402) = true := by decide +kernel

/-! ### DST over the whole window -/

/-- entries: 2002-01-01 00:00 UTC → DST, 2402-06-29 00:00 UTC → standard; `lastYear = 2402` -/
def zStuck : Zone :=
  { Rg.mkZone wTypes 0 [(1009843200, 1), (13648089600, 0)] with lastYear := some 2402 }

theorem zStuck_wf : TableWF zStuck :=
  wf_lastYear (Rg.wf_mkZone _ _ _ (by decide) (by decide) (by decide) (by decide)) _

theorem zStuck_cols : CivilCols zStuck := cols_lastYear (Rg.cols_mkZone _ _ _) _

theorem zStuck_sep : Separated zStuck := Lt.separatedb_sound _ (by decide +kernel)
theorem zStuck_room : ShiftRoom zStuck := (shiftRoomb_iff _).1 (by decide +kernel)
theorem zStuck_not_seam : seamOKb zStuck = false := by decide +kernel

/-! ### an extended table that ends too early for the shift arithmetic -/

/-- UTC with a single entry at 0; `lastYear = 1970` -/
def zEarly : Zone := { Rg.mkZone [(0, false)] 0 [(0, 0)] with lastYear := some 1970 }

theorem zEarly_wf : TableWF zEarly :=
  wf_lastYear (Rg.wf_mkZone _ _ _ (by decide) (by decide) (by decide) (by decide)) _

theorem zEarly_cols : CivilCols zEarly := cols_lastYear (Rg.cols_mkZone _ _ _) _

theorem zEarly_sep : Separated zEarly := Lt.separatedb_sound _ (by decide +kernel)
theorem zEarly_seam : SeamOK zEarly := seamOKb_sound _ zEarly_wf (by decide +kernel)
theorem zEarly_not_room : ¬ ShiftRoom zEarly := by
  rw [← shiftRoomb_iff]; decide +kernel

/-! ### the TZif file behind `zNewYear`

A 148-byte TZif (version 2) file: one recorded transition at 1000000000 (2001-09-09 01:46:40 UTC)
to type 0 (`XST`, +3600), type 1 (`XDT`, +7200, dst), footer `XST-1XDT,J1/` `-1,J180` (written here
in two pieces so as not to open a comment): daylight time starts on January 1st at -1:00, i.e. on
December 31st 23:00 of the year before, and ends on June 29th 02:00.
`Tz.load {} newYearTzif` (evaluated with `#eval`, not in the kernel) accepts it without raising a
flag and gives an extended table of 804 entries with `lastYear = some 2402`, last entry
(13648089600, XST) = 2402-06-29 00:00:00 UTC; `tableWFb`, `civilColsb`, `separatedb`,
`timesInRangeb`, `firstEntryRoomb`, `shiftRoomb` answer `true` on it and `seamOKb` answers `false`
(clause `window`: the entry 2002-12-31 22:00:00 UTC lies between `last − k400` and the end of civil
year 2002).  On that table, exactly as on `zNewYear`,
  convert(2402-12-31 23:30:00) = 13664154600  >  convert(2403-01-01 00:10:00) = 13664153400,
lookup(2402-12-31 23:30:00) is UNIQUE although no instant displays that second, and
lookup(13664154600) reports 2403-01-01 00:30:00 XDT.  The C++ library (`cctz::load_time_zone` on
this file, `convert`, `lookup`) gives the same answers, and again 400 years later. -/
def newYearTzif : List UInt8 := [
  84, 90, 105, 102, 50, 0, 0, 0, 0, 0, 0, 0, 0, 0, 0, 0, 0, 0, 0, 0, 0, 0, 0, 0,
  0, 0, 0, 0, 0, 0, 0, 0, 0, 0, 0, 0, 0, 0, 0, 1, 0, 0, 0, 4, 0, 0, 0, 0,
  0, 0, 85, 84, 67, 0, 84, 90, 105, 102, 50, 0, 0, 0, 0, 0, 0, 0, 0, 0, 0, 0, 0, 0,
  0, 0, 0, 0, 0, 0, 0, 0, 0, 0, 0, 0, 0, 0, 0, 0, 0, 1, 0, 0, 0, 2, 0, 0,
  0, 8, 0, 0, 0, 0, 59, 154, 202, 0, 0, 0, 0, 14, 16, 0, 0, 0, 0, 28, 32, 1, 4, 88,
  83, 84, 0, 88, 68, 84, 0, 10, 88, 83, 84, 45, 49, 88, 68, 84, 44, 74, 49, 47, 45, 49, 44, 74,
  49, 56, 48, 10]

end Cctz.Seam
