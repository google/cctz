/-
  C10: a concrete tame table at the boundary of `Tame` / `Tame'`, its neighbour
  one second later, and a loadable file that yields the boundary case.
-/
import Cctz.Proofs.TameCheckSound

namespace Cctz.Qo
open Cctz Cctz.Tz Cctz.Spec

/-! ### a concrete tame table at the boundary -/

/-- UTC with the "big bang" sentinel and a last entry at 2196-12-04 15:30:07 UTC, marked as
rule-extended up to the year 2196 -/
def zBoundary : Zone :=
  { transitions := #[
      { unixTime := -576460752303423488, typeIndex := 0,
        civilSec := ⟨-18267312070, 10, 26, 17, 1, 52⟩, prevCivilSec := ⟨-18267312070, 10, 26, 17, 1, 51⟩ },
      { unixTime := 7161147007, typeIndex := 0,
        civilSec := ⟨2196, 12, 4, 15, 30, 7⟩, prevCivilSec := ⟨2196, 12, 4, 15, 30, 6⟩ }],
    types := #[{ utcOffset := 0, civilMax := ⟨292277026596, 12, 4, 15, 30, 7⟩,
                 civilMin := ⟨-292277022657, 1, 27, 8, 29, 52⟩, isDst := false, abbrIndex := 0 }],
    defaultType := 0, abbreviations := [85, 84, 67, 0], futureSpec := [],
    extended := true, lastYear := some 2196 }

theorem zBoundary_tame : Tame zBoundary :=
  ⟨Lt.tableWFb_sound _ (by decide +kernel), Lt.civilColsb_sound _ (by decide +kernel),
    Lt.civilSortedb_sound _ (by decide +kernel), (TameCheck.offsb_iff _).1 (by decide +kernel),
    (TameCheck.timesb_iff _).1 (by decide +kernel), (TameCheck.halvesb_iff _).1 (by decide +kernel),
    fun _ => ⟨2196, rfl, by decide +kernel, by decide, by decide, by decide +kernel⟩⟩

theorem zBoundary_ovf (hint : Nat) : ¬ NoOvf (breakTime zBoundary hint i64max) :=
  breakTime_boundary_ovf zBoundary hint rfl (by decide +kernel) (by decide +kernel)


/-- the same table one second later: satisfies `Tame'` -/
def zBeyond : Zone :=
  { zBoundary with
    transitions := #[
      { unixTime := -576460752303423488, typeIndex := 0,
        civilSec := ⟨-18267312070, 10, 26, 17, 1, 52⟩, prevCivilSec := ⟨-18267312070, 10, 26, 17, 1, 51⟩ },
      { unixTime := 7161147008, typeIndex := 0,
        civilSec := ⟨2196, 12, 4, 15, 30, 8⟩, prevCivilSec := ⟨2196, 12, 4, 15, 30, 7⟩ }] }

theorem zBeyond_tame' : Tame' zBeyond := TameCheck.tameFullb_sound _ (by decide +kernel)

theorem zBoundary_not_tame' : ¬ Tame' zBoundary := fun h =>
  absurd (h.extStrict rfl) (by decide +kernel)


/-! ### the boundary table comes from a loadable file

The 156-byte TZif file below (version 2; one recorded transition at 1795-03-01 00:00:00 UTC to type
`BBB` = UTC+1 DST; types `AAA` = UTC+0, `BBB`; footer `AAA0BBB,J60/0,J338/16:30:07`) is accepted by
`load` without any flag and yields an 804-entry table with `extended = true`, `lastYear = some 2196`,
first entry -5517331200 and last entry 7161147007 (2196-12-04 15:30:07 UTC, the last generated return
to standard time); `tableWFb`, `civilSortedb`, `civilColsb`, `separatedb`, `tameb` all evaluate to
`true` on it and `(breakTime z 0 i64max).flags.ovf = true`, while `breakTime z 0 (i64max - 1)` raises
nothing (checked with `#eval`; the same closed statement is provable by `decide +kernel`, but that takes
about 8 minutes, so it is not part of the build).  The C++ built with `-fsanitize=undefined` reports on
this file, for `tz.lookup(time_point<seconds>::max())`:
`time_zone_info.cc:914:36: runtime error: signed integer overflow: 730692562 * 12622780800 cannot be
represented in type 'long int'`. -/
def boundaryFile : Bytes :=
  [84, 90, 105, 102, 50, 0, 0, 0, 0, 0, 0, 0, 0, 0, 0, 0, 0, 0, 0, 0, 0, 0, 0, 0, 0, 0, 0, 0, 0, 0, 0, 0,
   0, 0, 0, 0, 0, 0, 0, 1, 0, 0, 0, 4, 0, 0, 0, 0, 0, 0, 65, 65, 65, 0,
   84, 90, 105, 102, 50, 0, 0, 0, 0, 0, 0, 0, 0, 0, 0, 0, 0, 0, 0, 0, 0, 0, 0, 0, 0, 0, 0, 0, 0, 0, 0, 0,
   0, 0, 0, 1, 0, 0, 0, 2, 0, 0, 0, 8, 255, 255, 255, 254, 183, 36, 53, 0, 1,
   0, 0, 0, 0, 0, 0, 0, 0, 14, 16, 1, 4, 65, 65, 65, 0, 66, 66, 66, 0,
   10, 65, 65, 65, 48, 66, 66, 66, 44, 74, 54, 48, 47, 48, 44, 74, 51, 51, 56, 47, 49, 54, 58, 51, 48, 58,
   48, 55, 10]

example : boundaryFile.length = 156 := by decide +kernel

end Cctz.Qo
