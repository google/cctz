/-
  The table read as a piecewise-constant offset function: which stretch of instants an instant
  falls into (`segIndex`), what it displays, and which instants display a given civil second
  number under `Separated`.

  With `c i = timeOf i + offOf i` the civil second shown at change `i` and
  `p i = timeOf i + offBefore i - 1` the one shown just before it, stretch `j` (the instants from
  change `j-1` up to change `j`) displays exactly the civil seconds from `c (j-1)` to `p j`.
-/
import Cctz.Model.Tz
import Cctz.Spec.TableSem
import Cctz.Proofs.CountLe

namespace Cctz.Tc
open Cctz Cctz.Tz Cctz.Spec

theorem timeOf_mono {z : Zone} (wf : TableWF z) {i j : Nat} (hij : i ≤ j) (hj : j < z.transitions.size) :
    timeOf z i ≤ timeOf z j := by
  by_cases h : i = j
  · subst h; exact Int.le_refl _
  · exact Int.le_of_lt (wf.timeSorted i j (by omega) hj)

theorem timeOf_lt {z : Zone} (wf : TableWF z) {i j : Nat} (hij : i < j) (hj : j < z.transitions.size) :
    timeOf z i < timeOf z j := wf.timeSorted i j hij hj

/-- `u` lies in stretch `j`: at or after change `j-1` and before change `j` -/
def InSeg (z : Zone) (j : Nat) (u : Int) : Prop :=
  j ≤ z.transitions.size ∧ (0 < j → timeOf z (j - 1) ≤ u) ∧ (j < z.transitions.size → u < timeOf z j)

theorem segIndex_eq_iff {z : Zone} (wf : TableWF z) (j : Nat) (u : Int) :
    segIndex z u = j ↔ InSeg z j u :=
  count_le_iff (fun _ _ hij hj => timeOf_mono wf hij hj) u j

theorem segIndex_of_inSeg {z : Zone} (wf : TableWF z) {j : Nat} {u : Int} (h : InSeg z j u) :
    segIndex z u = j := (segIndex_eq_iff wf j u).2 h

theorem inSeg_segIndex {z : Zone} (wf : TableWF z) (u : Int) : InSeg z (segIndex z u) u :=
  (segIndex_eq_iff wf _ u).1 rfl

theorem offAt_eq (z : Zone) (u : Int) : offAt z u = offBefore z (segIndex z u) := rfl

theorem offBefore_succ (z : Zone) (i : Nat) : offBefore z (i + 1) = offOf z i := by
  simp [offBefore, offOf, prevType]

theorem offBefore_zero (z : Zone) : offBefore z 0 = (typ z z.defaultType).utcOffset := by
  simp [offBefore, prevType]

theorem offBefore_pos (z : Zone) {i : Nat} (h : 0 < i) : offBefore z i = offOf z (i - 1) := by
  rw [← offBefore_succ, Nat.sub_add_cancel h]

theorem shows_iff {z : Zone} (wf : TableWF z) (u x : Int) :
    shows z u x ↔ ∃ j, InSeg z j u ∧ u + offBefore z j = x := by
  unfold shows
  rw [offAt_eq]
  constructor
  · intro h; exact ⟨_, inSeg_segIndex wf u, h⟩
  · rintro ⟨j, hj, h⟩; rw [segIndex_of_inSeg wf hj]; exact h

/-! ### consequences of `Separated` -/

theorem mono_of_step {n : Nat} (f : Nat → Int) (step : ∀ i, i + 1 < n → f i ≤ f (i + 1)) {i : Nat} :
    ∀ {j : Nat}, i ≤ j → j < n → f i ≤ f j := by
  intro j
  induction j with
  | zero => intro h _; rw [show i = 0 by omega]; exact Int.le_refl _
  | succ j ih =>
    intro h hj
    by_cases hij : i = j + 1
    · rw [hij]; exact Int.le_refl _
    · exact Int.le_trans (ih (by omega) (by omega)) (step j hj)

theorem sep_p_mono {z : Zone} (sep : Separated z) {i j : Nat} (hij : i ≤ j) (hj : j < z.transitions.size) :
    timeOf z i + offBefore z i ≤ timeOf z j + offBefore z j :=
  mono_of_step (fun i => timeOf z i + offBefore z i) (fun i hi => (sep i hi).2.1) hij hj

theorem sep_c_mono {z : Zone} (sep : Separated z) {i j : Nat} (hij : i ≤ j) (hj : j < z.transitions.size) :
    timeOf z i + offOf z i ≤ timeOf z j + offOf z j :=
  mono_of_step (fun i => timeOf z i + offOf z i) (fun i hi => Int.le_of_lt (sep i hi).1) hij hj

theorem sep_pc {z : Zone} (sep : Separated z) {i j : Nat} (hij : i < j) (hj : j < z.transitions.size) :
    timeOf z i + offBefore z i - 1 < timeOf z j + offOf z j := by
  have h1 := sep_p_mono sep (show i ≤ j - 1 by omega) (by omega)
  have h2 := (sep (j - 1) (by omega)).2.2
  rw [show j - 1 + 1 = j by omega] at h2
  omega

theorem inSeg_range {z : Zone} {j : Nat} {u x : Int} (h : InSeg z j u) (hx : u + offBefore z j = x) :
    (0 < j → timeOf z (j - 1) + offOf z (j - 1) ≤ x) ∧
    (j < z.transitions.size → x ≤ timeOf z j + offBefore z j - 1) := by
  obtain ⟨_, h1, h2⟩ := h
  constructor
  · intro hj
    have := h1 hj
    have := offBefore_pos z hj
    omega
  · intro hj; have := h2 hj; omega

theorem inSeg_bounds {z : Zone} (sep : Separated z) {j : Nat} {u x : Int} (h : InSeg z j u)
    (hx : u + offBefore z j = x) {k : Nat} (hk : k < z.transitions.size) :
    (j ≤ k → x ≤ timeOf z k + offBefore z k - 1) ∧ (k < j → timeOf z k + offOf z k ≤ x) := by
  have hr := inSeg_range h hx
  have hjn := h.1
  constructor
  · intro hjk
    have := hr.2 (by omega)
    have := sep_p_mono sep hjk hk
    omega
  · intro hkj
    have := hr.1 (by omega)
    have := sep_c_mono sep (show k ≤ j - 1 by omega) (by omega)
    omega

theorem unique_shows {z : Zone} (wf : TableWF z) (sep : Separated z) {k : Nat} {x : Int}
    (hk : k ≤ z.transitions.size)
    (h1 : 0 < k → timeOf z (k - 1) + offOf z (k - 1) ≤ x ∧ timeOf z (k - 1) + offBefore z (k - 1) - 1 < x)
    (h2 : k < z.transitions.size → x < timeOf z k + offOf z k ∧ x ≤ timeOf z k + offBefore z k - 1) :
    ∀ u, shows z u x ↔ u = x - offBefore z k := by
  intro u
  rw [shows_iff wf]
  constructor
  · rintro ⟨j, hj, hx⟩
    rcases Nat.lt_trichotomy j k with hlt | rfl | hgt
    · have := (inSeg_bounds sep hj hx (show k - 1 < _ by omega)).1 (by omega)
      have := (h1 (by omega)).2
      omega
    · omega
    · have := (inSeg_bounds sep hj hx (show k < _ by have := hj.1; omega)).2 hgt
      have := (h2 (by have := hj.1; omega)).1
      omega
  · intro hu
    refine ⟨k, ⟨hk, fun h0 => ?_, fun hn => ?_⟩, by omega⟩
    · have := (h1 h0).1
      have := offBefore_pos z h0
      omega
    · have := (h2 hn).2; omega

theorem skipped_shows {z : Zone} (wf : TableWF z) (sep : Separated z) {k : Nat} {x : Int}
    (hk : k < z.transitions.size)
    (h1 : timeOf z k + offBefore z k - 1 < x) (h2 : x < timeOf z k + offOf z k) :
    ∀ u, ¬ shows z u x := by
  intro u
  rw [shows_iff wf]
  rintro ⟨j, hj, hx⟩
  have hb := inSeg_bounds sep hj hx hk
  by_cases hjk : j ≤ k
  · have := hb.1 hjk; omega
  · have := hb.2 (by omega); omega

theorem repeated_shows {z : Zone} (wf : TableWF z) (sep : Separated z) {i : Nat} {x : Int}
    (hi : i < z.transitions.size)
    (h1 : timeOf z i + offOf z i ≤ x) (h2 : x ≤ timeOf z i + offBefore z i - 1) :
    ∀ u, shows z u x ↔ u = x - offBefore z i ∨ u = x - offOf z i := by
  intro u
  rw [shows_iff wf]
  have hs := offBefore_succ z i
  constructor
  · rintro ⟨j, hj, hx⟩
    by_cases hji : j = i
    · subst hji; left; omega
    · by_cases hji' : j = i + 1
      · subst hji'; right; omega
      · exfalso
        by_cases hlt : j < i
        · have := (inSeg_bounds sep hj hx (show i - 1 < _ by omega)).1 (by omega)
          have := sep_pc sep (show i - 1 < i by omega) hi
          omega
        · have hjn := hj.1
          have := (inSeg_bounds sep hj hx (show i + 1 < _ by omega)).2 (by omega)
          have := sep_pc sep (show i < i + 1 by omega) (by omega)
          omega
  · rintro (hu | hu)
    · refine ⟨i, ⟨by omega, fun h0 => ?_, fun _ => by omega⟩, by omega⟩
      have := (sep (i - 1) (by omega)).1
      have := offBefore_pos z h0
      rw [show i - 1 + 1 = i by omega] at *
      omega
    · refine ⟨i + 1, ⟨by omega, fun _ => ?_, fun hn => ?_⟩, by omega⟩
      · simp only [Nat.add_sub_cancel]; omega
      · have := (sep i hn).2.1
        omega

end Cctz.Tc
