/-
  C08Lex helper proofs: `parseWidth` (the model of `ParseInt(cur, 0, 0, 1024, &n)` on the format
  string) reads exactly the specification's digit string and its value.
-/
import Cctz.Proofs.LexScan

namespace Cctz.Lx
open Cctz Cctz.Bytes Cctz.Format Cctz.Spec Cctz.Spec.Lex Cctz.Fm

/-- `digitsVal` started from `v` -/
def digitsValFrom (v : Nat) (ds : Bytes) : Nat := ds.foldl (fun v c => v * 10 + (c.toNat - 48)) v

theorem digitsValFrom_zero (ds : Bytes) : digitsValFrom 0 ds = digitsVal ds := by unfold digitsValFrom digitsVal; rfl
theorem digitsValFrom_cons (v : Nat) (c : UInt8) (ds : Bytes) : digitsValFrom v (c :: ds) = digitsValFrom (v * 10 + (c.toNat - 48)) ds := by
  unfold digitsValFrom; rfl

theorem digitsValFrom_ge (ds : Bytes) : ∀ v, v ≤ digitsValFrom v ds := by
  induction ds with
  | nil => intro v; exact Nat.le_refl _
  | cons c ds ih =>
    intro v
    rw [digitsValFrom_cons]
    exact Nat.le_trans (by omega) (ih _)

theorem isDigit_toNat (c : UInt8) (h : isDigit c = true) : 48 ≤ c.toNat ∧ c.toNat ≤ 57 := by
  simp only [isDigit, Bool.and_eq_true, decide_eq_true_eq, UInt8.le_iff_toNat_le] at h
  exact h

theorem cdiv_i32min : cdiv i32min 10 = -214748364 := by decide

theorem go_spec (fmt : Array UInt8) : ∀ (fuel j v : Nat), j ≤ fmt.size → fmt.size - j < fuel →
    (parseWidth.go fmt j (v : Int) fuel = none → 1024 < digitsValFrom v ((fmt.toList.drop j).takeWhile isDigit)) ∧
    (∀ v' j', parseWidth.go fmt j (v : Int) fuel = some (v', j') →
      v' = (digitsValFrom v ((fmt.toList.drop j).takeWhile isDigit) : Nat) ∧
        j' = j + ((fmt.toList.drop j).takeWhile isDigit).length) := by
  intro fuel
  induction fuel with
  | zero => intro j v _ h; omega
  | succ fuel ih =>
    intro j v hj hf
    rw [parseWidth.go]
    by_cases he : j = fmt.size
    · have hd : fmt.toList.drop j = [] := (drop_eq_nil_iff fmt j hj).2 he
      have hc : fmt.getD j 0 = 0 := by simp [he]
      rw [hd, hc]
      simp [isDigit, digitsValFrom]
    · have hlt : j < fmt.size := by omega
      rw [drop_cons fmt j hlt]
      have hgo : fmt.getD j 0 = chAt fmt j := rfl
      by_cases hdig : isDigit (chAt fmt j) = true
      · have hr := isDigit_toNat _ hdig
        rw [hgo, if_pos hdig, List.takeWhile_cons, if_pos hdig, digitsValFrom_cons]
        have hmono := digitsValFrom_ge ((fmt.toList.drop (j + 1)).takeWhile isDigit) (v * 10 + ((chAt fmt j).toNat - 48))
        rw [cdiv_i32min]
        by_cases h1 : -(v : Int) < -214748364
        · rw [if_pos h1]
          exact ⟨fun _ => by omega, fun _ _ h => by simp at h⟩
        · rw [if_neg h1]
          by_cases h2 : -((v : Int) * 10) < i32min + (((chAt fmt j).toNat : Int) - 48)
          · rw [if_pos h2]
            exact ⟨fun _ => by unfold i32min at h2; omega, fun _ _ h => by simp at h⟩
          · rw [if_neg h2]
            have := ih (j + 1) (v * 10 + ((chAt fmt j).toNat - 48)) (by omega) (by omega)
            have hcast : (((v * 10 + ((chAt fmt j).toNat - 48) : Nat)) : Int) = (v : Int) * 10 + (((chAt fmt j).toNat : Int) - 48) := by
              omega
            rw [hcast] at this
            simp only [List.length_cons]
            rw [show j + (((fmt.toList.drop (j + 1)).takeWhile isDigit).length + 1) =
              j + 1 + ((fmt.toList.drop (j + 1)).takeWhile isDigit).length by omega]
            exact this
      · rw [hgo, if_neg hdig, List.takeWhile_cons, if_neg hdig]
        simp [digitsValFrom]

theorem parseWidth_spec (fmt : Array UInt8) (i : Nat) (hi : i ≤ fmt.size) :
    parseWidth fmt i =
      if (fmt.toList.drop i).takeWhile isDigit ≠ [] ∧ digitsVal ((fmt.toList.drop i).takeWhile isDigit) ≤ 1024
      then some (((digitsVal ((fmt.toList.drop i).takeWhile isDigit) : Nat) : Int),
        i + ((fmt.toList.drop i).takeWhile isDigit).length)
      else none := by
  have h := go_spec fmt (fmt.size + 1 - i) i 0 hi (by omega)
  unfold parseWidth
  rw [digitsValFrom_zero] at h
  rw [show ((0 : Nat) : Int) = 0 from rfl] at h
  generalize parseWidth.go fmt i 0 (fmt.size + 1 - i) = g at h
  generalize (fmt.toList.drop i).takeWhile isDigit = ds at h ⊢
  rcases g with _ | ⟨v', j'⟩
  · have := h.1 rfl
    dsimp only
    rw [if_neg (by omega)]
  · obtain ⟨h1, h2⟩ := h.2 v' j' rfl
    subst h1 h2
    dsimp only
    by_cases hds : ds = []
    · subst hds; simp
    · have : 0 < ds.length := List.length_pos_iff.2 hds
      by_cases hv : digitsVal ds ≤ 1024
      · rw [if_neg (by omega), if_pos ⟨hds, hv⟩]
      · rw [if_pos (by omega), if_neg (by omega)]

end Cctz.Lx
