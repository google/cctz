/-
  The loader state machine (`Cctz.Loader`) for C13 / C19 / C20.
  * `Move`: what one step of a thread does to its program counter and to the shared part of the
    state, one constructor per branch of `step` (`step_cases`); `Move.frame` says what it leaves
    alone.
  * `Inv`: the global invariant, kept by every update of the shape `Move.frame` describes
    (`inv_update`, `inv_step`, `inv_reach`).
  * `rank`: a thread needs at most four own steps (`block_done`).
  * At the end, for C19: the byte literals of the names it speaks of, and `cstr`.
-/
import Cctz.Model.Loader
import Cctz.Proofs.BytesLemmas

namespace Cctz.Loader
open Cctz Cctz.Bytes

theorem isUtc_isFixed {n : Name} (h : isUtcName n = true) : isFixedName n = true := by
  unfold isUtcName at h; unfold isFixedName
  cases hf : Fixed.fromName n with
  | none => rw [hf] at h; exact absurd h (by decide)
  | some v => rfl

theorem isFixed_false_isUtc {n : Name} (h : isFixedName n = false) : isUtcName n = false := by
  cases hu : isUtcName n with
  | false => rfl
  | true => rw [isUtc_isFixed hu] at h; exact absurd h (by decide)

theorem lookup_snoc (m : List (Name × Ident)) (k n : Name) (v : Ident) :
    List.lookup n (m ++ [(k, v)]) = (List.lookup n m).or (if n = k then some v else none) := by
  rw [List.lookup_append]
  congr 1
  by_cases e : n = k
  · subst e; simp
  · simp [e]

theorem lookup_snoc_of_some {m : List (Name × Ident)} {k n : Name} {v x : Ident}
    (h : List.lookup n m = some x) : List.lookup n (m ++ [(k, v)]) = some x := by
  rw [lookup_snoc, h]; rfl

theorem lookup_snoc_self {m : List (Name × Ident)} {k : Name} {v : Ident}
    (h : List.lookup k m = none) : List.lookup k (m ++ [(k, v)]) = some v := by
  rw [lookup_snoc, h]; simp

theorem lookup_snoc_cases {m : List (Name × Ident)} {k n : Name} {v x : Ident}
    (hk : List.lookup k m = none) (h : List.lookup n (m ++ [(k, v)]) = some x) :
    List.lookup n m = some x ∨ (n = k ∧ x = v) := by
  rw [lookup_snoc] at h
  by_cases e : n = k
  · subst e; rw [hk] at h; simp at h; exact Or.inr ⟨rfl, h.symm⟩
  · rw [if_neg e, Option.or_none] at h; exact Or.inl h

theorem ite_eq_impl {ok : Bool} {g g' : Nat} (h : (if ok then Ident.impl g else Ident.utc) = .impl g') :
    g = g' := by
  cases ok
  · cases h
  · exact Ident.impl.inj h

/-! ## the transition relation -/

/-- One atomic step of thread `τ` loading `n`, at program counter `p`: the shared part of the state
becomes `s0` (the thread records of `s0` are still those of `s`) and the counter `p'`. -/
inductive Move (w : World) (s : LState) (τ : Nat) (n : Name) : PC → LState → PC → Prop
  | initUtc : isUtcName n = true → Move w s τ n .init s (.done true .utc)
  | initHit (id : Ident) : isUtcName n = false → List.lookup n s.map = some id →
      Move w s τ n .init s (.done (id != .utc) id)
  | initMiss : isUtcName n = false → List.lookup n s.map = none → Move w s τ n .init s .missed
  | missedFixed : isFixedName n = true →
      Move w s τ n .missed { s with nextGen := s.nextGen + 1 } (.built true s.nextGen)
  | missedFactory : isFixedName n = false →
      Move w s τ n .missed { s with log := s.log ++ [(τ, n)], active := s.active ++ [τ],
                                    maxActive := max s.maxActive (s.active ++ [τ]).length } .inFactory
  | factory : Move w s τ n .inFactory
      { s with active := s.active.filter (· != τ), nextGen := s.nextGen + 1 } (.built (w.loads n) s.nextGen)
  | builtHit (ok : Bool) (g : Nat) (id : Ident) : List.lookup n s.map = some id →
      Move w s τ n (.built ok g) s (.done (id != .utc) id)
  | builtMiss (ok : Bool) (g : Nat) : List.lookup n s.map = none →
      Move w s τ n (.built ok g) { s with map := s.map ++ [(n, if ok then Ident.impl g else Ident.utc)] }
        (.done ((if ok then Ident.impl g else Ident.utc) != .utc) (if ok then Ident.impl g else Ident.utc))

/-- a step does nothing (no such thread, or the thread has returned), or it is a `Move` of thread
`τ` and changes no other thread's record -/
theorem step_cases (w : World) (s : LState) (τ : Nat) :
    ((∀ t, s.threads[τ]? = some t → ∃ ok id, t.pc = .done ok id) ∧ step w s τ = s) ∨
    ∃ t s0 p', s.threads[τ]? = some t ∧ Move w s τ t.name t.pc s0 p' ∧
      step w s τ = setThread s0 τ { t with pc := p' } := by
  unfold step
  cases h : s.threads[τ]? with
  | none => exact Or.inl ⟨fun _ e => (by cases e), rfl⟩
  | some t =>
    simp only []
    cases hp : t.pc with
    | done ok id => exact Or.inl ⟨fun _ e => (by cases e; exact ⟨ok, id, hp⟩), rfl⟩
    | init =>
      refine Or.inr ⟨t, ?_⟩
      rw [hp]
      simp only [true_and]
      by_cases hu : isUtcName t.name = true
      · rw [if_pos hu]; exact ⟨_, _, .initUtc hu, rfl⟩
      · rw [if_neg hu]
        have hu' : isUtcName t.name = false := by simpa using hu
        cases hl : List.lookup t.name s.map with
        | some id => exact ⟨_, _, .initHit id hu' hl, rfl⟩
        | none => exact ⟨_, _, .initMiss hu' hl, rfl⟩
    | missed =>
      refine Or.inr ⟨t, ?_⟩
      rw [hp]
      simp only [true_and]
      by_cases hf : isFixedName t.name = true
      · rw [if_pos hf]; exact ⟨_, _, .missedFixed hf, rfl⟩
      · rw [if_neg hf]; exact ⟨_, _, .missedFactory (by simpa using hf), rfl⟩
    | inFactory => exact Or.inr ⟨t, _, _, rfl, hp ▸ .factory, rfl⟩
    | built ok g =>
      refine Or.inr ⟨t, ?_⟩
      rw [hp]
      simp only [true_and]
      cases hl : List.lookup t.name s.map with
      | some id => exact ⟨_, _, .builtHit ok g id hl, rfl⟩
      | none => exact ⟨_, _, .builtMiss ok g hl, rfl⟩


/-- number of own steps a thread still needs -/
def rank : PC → Nat
  | .init => 4
  | .missed => 3
  | .inFactory => 2
  | .built _ _ => 1
  | .done _ _ => 0

section
variable {w : World} {s s0 : LState} {τ : Nat} {n : Name} {p p' : PC} (m : Move w s τ n p s0 p')
include m

theorem Move.rank_lt : rank p' < rank p := by cases m <;> simp [rank]

/-- what a move leaves alone: the thread records; the generation counter only grows; the map is
unchanged or gets the entry of a `.built` thread; the log is unchanged or gets `(τ, n)` -/
theorem Move.frame : s0.threads = s.threads ∧ s.nextGen ≤ s0.nextGen ∧
    (s0.map = s.map ∨ ∃ ok g, p = .built ok g ∧ List.lookup n s.map = none ∧
      s0.map = s.map ++ [(n, if ok then Ident.impl g else Ident.utc)]) ∧
    (s0.log = s.log ∨ (s0.log = s.log ++ [(τ, n)] ∧ isFixedName n = false)) := by
  cases m with
  | missedFixed _ => exact ⟨rfl, Nat.le_succ _, Or.inl rfl, Or.inl rfl⟩
  | missedFactory hf => exact ⟨rfl, Nat.le_refl _, Or.inl rfl, Or.inr ⟨rfl, hf⟩⟩
  | factory => exact ⟨rfl, Nat.le_succ _, Or.inl rfl, Or.inl rfl⟩
  | builtMiss ok g hl => exact ⟨rfl, Nat.le_refl _, Or.inr ⟨ok, g, rfl, hl, rfl⟩, Or.inl rfl⟩
  | _ => exact ⟨rfl, Nat.le_refl _, Or.inl rfl, Or.inl rfl⟩

theorem Move.map_mono {k : Name} {id : Ident} (h : List.lookup k s.map = some id) :
    List.lookup k s0.map = some id := by
  rcases m.frame.2.2.1 with e | ⟨_, _, _, _, e⟩ <;> rw [e]
  · exact h
  · exact lookup_snoc_of_some h

end

theorem threads_setThread {s s0 : LState} {τ : Nat} {t : Thread} (t' : Thread) (i : Nat)
    (h : s.threads[τ]? = some t) (h0 : s0.threads = s.threads) :
    (setThread s0 τ t').threads[i]? = if τ = i then some t' else s.threads[i]? := by
  have hlt : τ < s.threads.length := (List.getElem?_eq_some_iff.mp h).1
  simp only [setThread, List.getElem?_set, h0, hlt, if_true]

theorem step_frame (w : World) (s : LState) {τ i : Nat} (hi : τ ≠ i) :
    (step w s τ).threads[i]? = s.threads[i]? := by
  rcases step_cases w s τ with ⟨_, e⟩ | ⟨t, s0, p', h, m, e⟩ <;> rw [e]
  rw [threads_setThread _ i h m.frame.1, if_neg hi]

theorem step_rank (w : World) {s : LState} {τ : Nat} {t : Thread} (h : s.threads[τ]? = some t) :
    ∃ t', (step w s τ).threads[τ]? = some t' ∧ t'.name = t.name ∧ rank t'.pc ≤ rank t.pc - 1 := by
  rcases step_cases w s τ with ⟨hd, e⟩ | ⟨t0, s0, p', h0, m, e⟩ <;> rw [e]
  · obtain ⟨_, _, hp⟩ := hd t h
    exact ⟨t, h, rfl, by rw [hp]; exact Nat.zero_le _⟩
  · rw [h] at h0; cases h0
    exact ⟨{ t with pc := p' }, by rw [threads_setThread _ τ h m.frame.1, if_pos rfl], rfl,
      Nat.le_sub_one_of_lt m.rank_lt⟩

theorem run_rank (w : World) {τ : Nat} (n : Nat) : ∀ {s : LState} {t : Thread}, s.threads[τ]? = some t →
    ∃ t', (run w s (List.replicate n τ)).threads[τ]? = some t' ∧ t'.name = t.name ∧
      rank t'.pc ≤ rank t.pc - n := by
  induction n with
  | zero => intro s t h; exact ⟨t, h, rfl, Nat.le_refl _⟩
  | succ n ih =>
    intro s t h
    obtain ⟨t1, h1, n1, r1⟩ := step_rank w h
    obtain ⟨t2, h2, n2, r2⟩ := ih h1
    exact ⟨t2, h2, n2.trans n1, by omega⟩

theorem block_done (w : World) {s : LState} {τ : Nat} {t : Thread} (h : s.threads[τ]? = some t) :
    ∃ t' ok id, (run w s [τ, τ, τ, τ]).threads[τ]? = some t' ∧ t'.name = t.name ∧
      t'.pc = .done ok id := by
  obtain ⟨t', h', n', r'⟩ := run_rank w 4 h
  have : rank t.pc ≤ 4 := by cases t.pc <;> simp [rank]
  have r0 : rank t'.pc = 0 := by omega
  refine ⟨t', ?_⟩
  cases hp : t'.pc with
  | done ok id => exact ⟨ok, id, h', n', rfl⟩
  | _ => rw [hp] at r0; cases r0

/-! ## the invariant -/

/-- what the program counter of a thread loading `n` says about the shared state -/
def PcOk (w : World) (s : LState) (n : Name) : PC → Prop
  | .init => True
  | .missed => isUtcName n = false
  | .inFactory => isFixedName n = false
  | .built ok g => isUtcName n = false ∧ ok = seqOk w n ∧ g < s.nextGen ∧
      ∀ m, List.lookup m s.map ≠ some (.impl g)
  | .done ok id => (isUtcName n = true ∧ ok = true ∧ id = .utc) ∨
      (isUtcName n = false ∧ List.lookup n s.map = some id ∧ ok = (id != .utc))

structure Inv (w : World) (s : LState) : Prop where
  mapUtc : ∀ n id, List.lookup n s.map = some id →
    isUtcName n = false ∧ (id = .utc ↔ seqOk w n = false)
  mapGen : ∀ n g, List.lookup n s.map = some (.impl g) → g < s.nextGen
  mapInj : ∀ n1 n2 g, List.lookup n1 s.map = some (.impl g) →
    List.lookup n2 s.map = some (.impl g) → n1 = n2
  thr : ∀ (i : Nat) (t : Thread), s.threads[i]? = some t → PcOk w s t.name t.pc
  builtInj : ∀ (i j : Nat) (ti tj : Thread) (oki okj : Bool) (g : Nat),
    s.threads[i]? = some ti → s.threads[j]? = some tj →
    ti.pc = .built oki g → tj.pc = .built okj g → i = j
  log : ∀ (τ : Nat) (n : Name), (τ, n) ∈ s.log →
    isFixedName n = false ∧ ∃ t : Thread, s.threads[τ]? = some t ∧ t.name = n

section
variable {w : World} {s s0 : LState} {τ : Nat} {n : Name} {p p' : PC} (m : Move w s τ n p s0 p')
include m

theorem Move.fresh {ok : Bool} {g : Nat} (e : p' = .built ok g) : s.nextGen ≤ g := by
  cases m with
  | missedFixed _ => cases e; exact Nat.le_refl _
  | factory => cases e; exact Nat.le_refl _
  | _ => cases e

theorem Move.pcOk (I : Inv w s) (hT : PcOk w s n p) : PcOk w s0 n p' := by
  have hgen : ∀ k, List.lookup k s.map ≠ some (.impl s.nextGen) :=
    fun k hk => absurd (I.mapGen k _ hk) (Nat.lt_irrefl _)
  cases m with
  | initUtc hu => exact Or.inl ⟨hu, rfl, rfl⟩
  | initHit id hu hl => exact Or.inr ⟨hu, hl, rfl⟩
  | initMiss hu _ => exact hu
  | missedFixed hf => exact ⟨hT, by simp [seqOk, hf], Nat.lt_succ_self _, hgen⟩
  | missedFactory hf => exact hf
  | factory =>
    have hu := isFixed_false_isUtc hT
    exact ⟨hu, by simp [seqOk, show isFixedName n = false from hT, hu], Nat.lt_succ_self _, hgen⟩
  | builtHit ok g id hl => exact Or.inr ⟨hT.1, hl, rfl⟩
  | builtMiss ok g hl => exact Or.inr ⟨hT.1, lookup_snoc_self hl, rfl⟩

end

theorem inv_update {w : World} {s s0 : LState} {τ : Nat} {t : Thread} {p' : PC}
    (I : Inv w s) (h : s.threads[τ]? = some t)
    (fr : s0.threads = s.threads ∧ s.nextGen ≤ s0.nextGen ∧
      (s0.map = s.map ∨ ∃ ok g, t.pc = .built ok g ∧ List.lookup t.name s.map = none ∧
        s0.map = s.map ++ [(t.name, if ok then Ident.impl g else Ident.utc)]) ∧
      (s0.log = s.log ∨ (s0.log = s.log ++ [(τ, t.name)] ∧ isFixedName t.name = false)))
    (hp' : PcOk w s0 t.name p') (hfresh : ∀ ok g, p' = .built ok g → s.nextGen ≤ g) :
    Inv w (setThread s0 τ { t with pc := p' }) := by
  obtain ⟨hthr, hgen, hmap, hlog⟩ := fr
  have hT := I.thr τ t h
  -- a lookup in the new map is an old one, or finds the entry of thread τ, which was `.built`
  have hlk : ∀ k id, List.lookup k s0.map = some id → List.lookup k s.map = some id ∨
      ∃ ok g, t.pc = .built ok g ∧ k = t.name ∧ id = (if ok then Ident.impl g else Ident.utc) := by
    intro k id hk
    rcases hmap with e | ⟨ok, g, hp, hl, e⟩ <;> rw [e] at hk
    · exact Or.inl hk
    · rcases lookup_snoc_cases hl hk with h1 | ⟨h1, h2⟩
      · exact Or.inl h1
      · exact Or.inr ⟨ok, g, hp, h1, h2⟩
  have hlk' : ∀ k id, List.lookup k s.map = some id → List.lookup k s0.map = some id := by
    intro k id hk
    rcases hmap with e | ⟨_, _, _, _, e⟩ <;> rw [e]
    · exact hk
    · exact lookup_snoc_of_some hk
  have hnew : ∀ k g, List.lookup k s0.map = some (.impl g) → List.lookup k s.map = some (.impl g) ∨
      (k = t.name ∧ ∃ ok, t.pc = .built ok g) := by
    intro k g hk
    rcases hlk k _ hk with a | ⟨ok, g', hp, e1, e2⟩
    · exact Or.inl a
    · rw [ite_eq_impl e2.symm] at hp
      exact Or.inr ⟨e1, ok, hp⟩
  constructor
  · intro k id hk
    rcases hlk k id hk with a | ⟨ok, g, hp, rfl, rfl⟩
    · exact I.mapUtc k id a
    · rw [hp] at hT
      exact ⟨hT.1, by rw [← hT.2.1]; cases ok <;> simp⟩
  · intro k g hk
    rcases hnew k g hk with a | ⟨_, ok, hp⟩
    · exact Nat.lt_of_lt_of_le (I.mapGen k g a) hgen
    · rw [hp] at hT; exact Nat.lt_of_lt_of_le hT.2.2.1 hgen
  · intro k1 k2 g h1 h2
    rcases hnew k1 g h1 with a1 | ⟨e1, ok1, hp1⟩ <;> rcases hnew k2 g h2 with a2 | ⟨e2, ok2, hp2⟩
    · exact I.mapInj k1 k2 g a1 a2
    · rw [hp2] at hT; exact absurd a1 (hT.2.2.2 k1)
    · rw [hp1] at hT; exact absurd a2 (hT.2.2.2 k2)
    · rw [e1, e2]
  · intro i ti hi
    rw [threads_setThread _ i h hthr] at hi
    by_cases e : τ = i
    · rw [if_pos e] at hi; cases hi; exact hp'
    · rw [if_neg e] at hi
      have hTi := I.thr i ti hi
      cases hpi : ti.pc with
      | built okj gj =>
        rw [hpi] at hTi
        refine ⟨hTi.1, hTi.2.1, Nat.lt_of_lt_of_le hTi.2.2.1 hgen, fun k hk => ?_⟩
        rcases hnew k gj hk with a | ⟨_, ok, hp⟩
        · exact hTi.2.2.2 k a
        · exact e (I.builtInj τ i t ti _ _ gj h hi hp hpi)
      | done ok id =>
        rw [hpi] at hTi
        rcases hTi with a | ⟨a, b, c⟩
        · exact Or.inl a
        · exact Or.inr ⟨a, hlk' _ _ b, c⟩
      | _ => rw [hpi] at hTi; exact hTi
  · -- a thread that has just been built is not an old one: its generation is new
    have old : ∀ (j : Nat) (tj : Thread) (oki okj : Bool) (g : Nat),
        s.threads[j]? = some tj → p' = .built oki g → tj.pc = .built okj g → False := by
      intro j tj oki okj g hj hpi hpj
      have hTj := I.thr j tj hj
      rw [hpj] at hTj
      exact absurd hTj.2.2.1 (Nat.not_lt.mpr (hfresh oki g hpi))
    intro i j ti tj oki okj g hi hj hpi hpj
    rw [threads_setThread _ i h hthr] at hi
    rw [threads_setThread _ j h hthr] at hj
    by_cases ei : τ = i <;> by_cases ej : τ = j
    · rw [← ei, ← ej]
    · rw [if_pos ei] at hi; rw [if_neg ej] at hj; cases hi
      exact (old j tj oki okj g hj hpi hpj).elim
    · rw [if_neg ei] at hi; rw [if_pos ej] at hj; cases hj
      exact (old i ti okj oki g hi hpj hpi).elim
    · rw [if_neg ei] at hi; rw [if_neg ej] at hj
      exact I.builtInj i j ti tj oki okj g hi hj hpi hpj
  · -- a logged thread keeps its name
    have old : ∀ (i : Nat) (k : Name), (i, k) ∈ s.log → isFixedName k = false ∧
        ∃ t'' : Thread, (setThread s0 τ { t with pc := p' }).threads[i]? = some t'' ∧ t''.name = k := by
      intro i k hm
      obtain ⟨a, t'', b, c⟩ := I.log i k hm
      refine ⟨a, ?_⟩
      rw [threads_setThread _ i h hthr]
      by_cases e : τ = i
      · rw [if_pos e]; subst e
        rw [h] at b; cases b
        exact ⟨_, rfl, c⟩
      · rw [if_neg e]; exact ⟨t'', b, c⟩
    intro i k hm
    have hm : (i, k) ∈ s0.log := hm
    rcases hlog with e | ⟨e, hf⟩ <;> rw [e] at hm
    · exact old i k hm
    · rcases List.mem_append.mp hm with a | a
      · exact old i k a
      · cases List.mem_singleton.mp a
        exact ⟨hf, { t with pc := p' }, by rw [threads_setThread _ τ h hthr, if_pos rfl], rfl⟩

theorem inv_step {w : World} {s : LState} (τ : Nat) (I : Inv w s) : Inv w (step w s τ) := by
  rcases step_cases w s τ with ⟨_, e⟩ | ⟨t, s0, p', h, m, e⟩ <;> rw [e]
  · exact I
  · exact inv_update I h m.frame (m.pcOk I (I.thr τ t h)) (fun _ _ => m.fresh)

theorem initState_get {names : List Name} {i : Nat} {t : Thread}
    (h : (initState names).threads[i]? = some t) : t.pc = .init := by
  simp only [initState, List.getElem?_map] at h
  cases hn : names[i]? with
  | none => rw [hn] at h; cases h
  | some n => rw [hn] at h; cases h; rfl

theorem inv_init (w : World) (names : List Name) : Inv w (initState names) := by
  refine ⟨nofun, nofun, nofun, fun i t h => ?_, fun i j ti tj oki okj g hi _ hpi => ?_, nofun⟩
  · rw [initState_get h]; trivial
  · rw [initState_get hi] at hpi; cases hpi

theorem inv_run {w : World} (sched : List Nat) : ∀ {s : LState}, Inv w s → Inv w (run w s sched) := by
  induction sched with
  | nil => intro s I; exact I
  | cons τ rest ih => intro s I; exact ih (inv_step τ I)

theorem inv_reach (w : World) (names : List Name) (sched : List Nat) :
    Inv w (run w (initState names) sched) := inv_run sched (inv_init w names)

end Cctz.Loader

namespace Cctz.Loader
open Cctz Cctz.Bytes

theorem ofString_file : ofString "file:" = [102, 105, 108, 101, 58] := by decide +kernel
theorem ofString_zoneinfo : ofString "/usr/share/zoneinfo" =
    [47, 117, 115, 114, 47, 115, 104, 97, 114, 101, 47, 122, 111, 110, 101, 105, 110, 102, 111] := by
  decide +kernel
theorem ofString_localtime : ofString "localtime" = [108, 111, 99, 97, 108, 116, 105, 109, 101] := by
  decide +kernel
theorem ofString_colon_localtime :
    ofString ":localtime" = [58, 108, 111, 99, 97, 108, 116, 105, 109, 101] := by decide +kernel
theorem ofString_etc_localtime : ofString "/etc/localtime" =
    [47, 101, 116, 99, 47, 108, 111, 99, 97, 108, 116, 105, 109, 101] := by decide +kernel

end Cctz.Loader
