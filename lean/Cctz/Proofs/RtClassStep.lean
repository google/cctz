/-
  C07Class helper proofs, parse side: what `stepSpec` does at each item of the class, given what
  the reader it calls returns (from the equations `Pa.spec_*`).
-/
import Cctz.Proofs.RtClassNum
import Cctz.Proofs.RtClassDefs
import Cctz.Proofs.WrLoop

namespace Cctz.Rtc
open Cctz Cctz.Bytes Cctz.Format Cctz.Parse Cctz.Spec Cctz.Spec.Lex Cctz.Pa Cctz.Wr Cctz.Rt

variable (sp : Strptime) (st : PState)

/-! ### literals -/

theorem stepSpec_lit (c : UInt8) (rest f' : Bytes) (hf : st.fmt = c :: f') (hc : c ≠ 37)
    (hs : isSpace c = false) : stepSpec sp st (c :: rest) = { st with data := some rest, fmt := f' } := by
  rw [spec_lit sp _ (by rw [hf]; exact hs) (by rw [hf]; exact hc), hf, if_pos ⟨rfl, List.cons_ne_nil _ _⟩]
  rfl

theorem stepSpec_pct (rest f' : Bytes) (hf : st.fmt = 37 :: 37 :: f') :
    stepSpec sp st (37 :: rest) = { st with data := some rest, fmt := f' } := by
  rw [spec_pct sp _ hf, if_pos ⟨rfl, List.cons_ne_nil _ _⟩]
  rfl

theorem stepSpec_ws (c : UInt8) (d f' : Bytes) (hf : st.fmt = c :: f') (hc : isSpace c = true) :
    stepSpec sp st d = { st with data := some (skipSpace d), fmt := skipSpace f' } := by
  rw [spec_space sp _ (by rw [hf]; exact hc), hf]
  rfl

theorem stepSpec_ET (rest f' : Bytes) (hf : st.fmt = 37 :: 69 :: 84 :: f') :
    stepSpec sp st (84 :: rest) = { st with data := some rest, fmt := f' } := by
  rw [spec_ET sp _ hf rfl, if_pos ⟨Or.inl rfl, List.cons_ne_nil _ _⟩]
  rfl

/-! ### numbers -/

theorem stepSpec_Y (y : Int) (rest f' : Bytes) (hf : st.fmt = 37 :: 89 :: f') (hy : inI64 y)
    (hrest : isDigit (rest.headD 0) = false) :
    stepSpec sp st (format64 0 y ++ rest) =
      { st with data := some rest, fmt := f', year := y, sawYear := true, ghost := st.ghost ++ [(89, y)] } := by
  rw [spec_Y sp _ hf, parseInt64_format64 y rest hy hrest]

theorem stepSpec_s (t : Int) (rest f' : Bytes) (hf : st.fmt = 37 :: 115 :: f') (ht : inI64 t)
    (hrest : isDigit (rest.headD 0) = false) :
    stepSpec sp st (format64 0 t ++ rest) =
      { st with data := some rest, fmt := f', percentS := t, sawPercentS := true } := by
  rw [spec_s sp _ hf, parseInt64_format64 t rest ht hrest]

theorem stepSpec_m (v : Int) (rest f' : Bytes) (hf : st.fmt = 37 :: 109 :: f') (h1 : 1 ≤ v) (h2 : v ≤ 12) :
    stepSpec sp st ((format02d v).val ++ rest) =
      { st with data := some rest, fmt := f', ghost := st.ghost ++ [(109, v)],
                tm := { st.tm with mon := v - 1 }, weekNum := -1 } := by
  rw [spec_m sp _ hf,
    readField_some (tr := Gen.parse_m) (parseInt32_format02d v 1 12 rest (by omega) (by omega) h1 h2)]

theorem stepSpec_d (v : Int) (rest f' : Bytes) (hf : st.fmt = 37 :: 100 :: f') (h1 : 1 ≤ v) (h2 : v ≤ 31) :
    stepSpec sp st ((format02d v).val ++ rest) =
      { st with data := some rest, fmt := f', ghost := st.ghost ++ [(100, v)],
                tm := { st.tm with mday := v }, weekNum := -1 } := by
  rw [spec_d sp _ hf,
    readField_some (tr := Gen.parse_d) (parseInt32_format02d v 1 31 rest (by omega) (by omega) h1 h2)]

theorem stepSpec_H (v : Int) (rest f' : Bytes) (hf : st.fmt = 37 :: 72 :: f') (h1 : 0 ≤ v) (h2 : v ≤ 23) :
    stepSpec sp st ((format02d v).val ++ rest) =
      { st with data := some rest, fmt := f', ghost := st.ghost ++ [(72, v)],
                tm := { st.tm with hour := v }, twelveHour := false } := by
  rw [spec_H sp _ hf,
    readField_some (tr := Gen.parse_H) (parseInt32_format02d v 0 23 rest (by omega) (by omega) h1 h2)]

theorem stepSpec_M (v : Int) (rest f' : Bytes) (hf : st.fmt = 37 :: 77 :: f') (h1 : 0 ≤ v) (h2 : v ≤ 59) :
    stepSpec sp st ((format02d v).val ++ rest) =
      { st with data := some rest, fmt := f', ghost := st.ghost ++ [(77, v)],
                tm := { st.tm with min := v } } := by
  rw [spec_M sp _ hf,
    readField_some (tr := Gen.parse_M) (parseInt32_format02d v 0 59 rest (by omega) (by omega) h1 h2)]

theorem stepSpec_S (v : Int) (rest f' : Bytes) (hf : st.fmt = 37 :: 83 :: f') (h1 : 0 ≤ v) (h2 : v ≤ 59) :
    stepSpec sp st ((format02d v).val ++ rest) =
      { st with data := some rest, fmt := f', ghost := st.ghost ++ [(83, v)],
                tm := { st.tm with sec := v } } := by
  rw [spec_S sp _ hf,
    readField_some (tr := Gen.parse_S) (parseInt32_format02d v 0 60 rest (by omega) (by omega) h1 (by omega))]

/-- `%e` on a text that begins with a blank: the blank counts toward the width -/
theorem stepSpec_e_pad (v : Int) (d rest f' : Bytes) (hf : st.fmt = 37 :: 101 :: f')
    (hp : parseInt32 d 1 1 31 = some (rest, v)) :
    stepSpec sp st (32 :: d) =
      { st with data := some rest, fmt := f', ghost := st.ghost ++ [(101, v)],
                tm := { st.tm with mday := v }, weekNum := -1 } := by
  rw [spec_e sp _ hf, if_pos ⟨rfl, List.cons_ne_nil _ _⟩]
  exact congrArg (fun s : PState => { s with weekNum := -1 }) (readField_some (tr := (1, 1, 31)) hp)

theorem stepSpec_e (v : Int) (d rest f' : Bytes) (hf : st.fmt = 37 :: 101 :: f') (hd : d.headD 0 ≠ 32)
    (hp : parseInt32 d 2 1 31 = some (rest, v)) :
    stepSpec sp st d =
      { st with data := some rest, fmt := f', ghost := st.ghost ++ [(101, v)],
                tm := { st.tm with mday := v }, weekNum := -1 } := by
  rw [spec_e sp _ hf, if_neg (fun h => hd h.1)]
  exact congrArg (fun s : PState => { s with weekNum := -1 }) (readField_some (tr := (2, 1, 31)) hp)

theorem stepSpec_y4 (y : Int) (d rest f' : Bytes) (hf : st.fmt = 37 :: 69 :: 52 :: 89 :: f')
    (hp : parseInt64 d 4 (-999) 9999 = some (rest, y)) (hl : d.length - rest.length = 4) :
    stepSpec sp st d =
      { st with data := some rest, fmt := f', year := y, sawYear := true, ghost := st.ghost ++ [(52, y)] } := by
  rw [spec_E4Y sp _ hf ⟨rfl, rfl⟩,
    show parseInt64 d Gen.parse_E4Y.1 Gen.parse_E4Y.2.1 Gen.parse_E4Y.2.2 = some (rest, y) from hp]
  exact if_pos hl

/-! ### offsets -/

/-- every offset conversion hands the text to `ParseOffset`, with ':' as the separator except for `%z` -/
theorem stepSpec_offset (k : CK) (hk : sets (.conv k) .offset = true) (off : Int) (d rest f' : Bytes)
    (hf : st.fmt = 37 :: (spellC k ++ f')) (hp : parseOffset d (if k = .z then 0 else 58) = some (rest, off)) :
    stepSpec sp st d = { st with data := some rest, fmt := f', offset := off, sawOffset := true } := by
  cases k with
  | zStar => exact (spec_Ez sp _ hf (Or.inr ⟨rfl, rfl⟩)).trans (readOffset_some hp)
  | zE => exact (spec_Ez sp _ hf (Or.inl rfl)).trans (readOffset_some hp)
  | zColon1 => exact (spec_colon sp _ hf (Or.inl rfl)).trans (readOffset_some hp)
  | zColon => exact (spec_colon sp _ hf (Or.inr ⟨rfl, Or.inl rfl⟩)).trans (readOffset_some hp)
  | zColon3 => exact (spec_colon sp _ hf (Or.inr ⟨rfl, Or.inr ⟨rfl, rfl⟩⟩)).trans (readOffset_some hp)
  | z => exact (spec_z sp _ hf).trans (readOffset_some hp)
  | _ => cases hk

/-! ### seconds with a fraction, fractions -/

theorem stepSpec_secStar (d f' : Bytes) (hf : st.fmt = 37 :: 69 :: 42 :: 83 :: f') :
    stepSpec sp st d = { parseSecFrac st d with fmt := f' } :=
  spec_EstarS sp _ hf ⟨rfl, rfl⟩

theorem stepSpec_fracStar (d f' : Bytes) (hf : st.fmt = 37 :: 69 :: 42 :: 102 :: f') :
    stepSpec sp st d = { parseFrac st d with fmt := f' } :=
  spec_Estarf sp _ hf ⟨rfl, rfl⟩

/-- `%E<n>S` / `%E<n>f`: the width is read off the format -/
theorem stepSpec_Edig (n : Nat) (x : UInt8) (d f' : Bytes)
    (hf : st.fmt = 37 :: 69 :: (decNat n ++ x :: f')) (hn1 : 10 ≤ n) (hn2 : n ≤ 1024)
    (hx : x = 83 ∨ x = 102) :
    stepSpec sp st d =
      if x = 83 then { parseSecFrac st d with fmt := f' } else { parseFrac st d with fmt := f' } := by
  have hxd : isDigit x = false := by rcases hx with h | h <;> subst h <;> decide
  have hpi : parseInt32 (decNat n ++ x :: f') 0 0 1024 = some (x :: f', (n : Int)) := by
    have := parseInt_decInt i32min (by decide) (n : Int) 0 1024 (x :: f') (by simpa using hxd)
      (by unfold i32min; omega) (by unfold i32min; omega) (by omega) (by omega)
    rwa [show decInt (n : Int) = decNat n by unfold decInt; rw [if_neg (by omega)]; rfl] at this
  have hdrop : List.dropWhile isDigit (decNat n ++ x :: f') = x :: f' :=
    (takeWhile_append_of_all (p := isDigit) (decNat n) (x :: f') (decNat_digits n) (by simpa using hxd)).2
  obtain ⟨c1, c2, tl, e, d1, d2⟩ := decNat_two n hn1
  have hpk : peek (decNat n ++ x :: f') = c1 := by rw [e]; rfl
  have hpk2 : peek ((decNat n ++ x :: f').drop 1) = c2 := by rw [e]; rfl
  have ne1 : ∀ y, isDigit y = false → c1 ≠ y := fun y hy h => by rw [h, hy] at d1; cases d1
  rw [spec_E_rest sp _ hf (by rw [hpk]; exact ne1 _ (by decide))
    (by rw [hpk]; exact fun h => h.elim (ne1 _ (by decide)) (fun h => ne1 _ (by decide) h.1))
    (by rw [hpk]; exact fun h => ne1 _ (by decide) h.1) (by rw [hpk]; exact fun h => ne1 _ (by decide) h.1)
    (by rw [hpk2]; exact fun h => by rw [h.2] at d2; cases d2)]
  have hdg : isDigit (peek (decNat n ++ x :: f')) = true := by rw [hpk]; exact d1
  have h83 : ¬ peek (102 :: f') = 83 := fun h => absurd h (show (102 : UInt8) ≠ 83 by decide)
  simp only [hdg, hpi, hdrop, Option.isSome_some, true_and, List.drop_succ_cons, List.drop_zero]
  rcases hx with rfl | rfl
  · rw [if_pos (show peek (83 :: f') = 83 from rfl), if_pos rfl]
  · rw [if_neg h83, if_pos (show peek (102 :: f') = 102 from rfl), if_neg (show ¬ (102 : UInt8) = 83 by decide)]

end Cctz.Rtc
