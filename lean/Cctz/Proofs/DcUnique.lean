/-
  C01Decode helper proofs: the layout `IsTzif` is deterministic: a byte string has at most
  one reading (header counts and content).
-/
import Cctz.Proofs.DcMain

namespace Cctz.Dc
open Cctz Cctz.Tz Cctz.Spec Cctz.C01Decode

theorem eq_chunks (n : Nat) (ts : List Bytes) (h : ∀ t ∈ ts, t.length = n) (rest : Bytes) :
    ts = chunks n (ts.flatten ++ rest) ts.length := by
  induction ts with
  | nil => rfl
  | cons t tl ih =>
    have ht := h t List.mem_cons_self
    rw [List.length_cons, chunks, List.flatten_cons, List.append_assoc, List.take_left' ht,
      List.drop_left' ht, ← ih fun x hx => h x (List.mem_cons_of_mem _ hx)]

/-- the content of a block is what `decodeBlock` reads off by position -/
theorem isBlock_eq_decode (timeLen : Nat) (H : Hdr) (blk : Bytes) (d : TzData)
    (hb : IsBlock timeLen H blk d) : d = decodeBlock timeLen H blk d.footer d.version := by
  obtain ⟨_, ts, ix, tys, leap, isstd, isut, rfl, a1, a2, a3, a4, a5, a6, a7, a8, a9, _, _, _⟩ := hb
  have l1 : ts.flatten.length = timeLen * H.timecnt := by rw [flatten_length timeLen ts a2, a1]
  have l2 : tys.flatten.length = 6 * H.typecnt := by rw [flatten_length 6 tys a7, a6]
  obtain ⟨times, idxs, types, abbrs, footer, version⟩ := d
  dsimp only at a3 a5 a8 a9 ⊢
  unfold decodeBlock
  dsimp only
  simp only [List.append_assoc]
  rw [List.drop_left' l1, List.take_left' a4, List.drop_left' a4, List.drop_left' l2,
    List.take_left' a9, ← a1, ← eq_chunks timeLen ts a2, ← a6, ← eq_chunks 6 tys a7, ← a3, ← a5]
  rw [a8]
  rfl

theorem isHeader_unique (h : Bytes) (H H' : Hdr) (v v' : UInt8) (h1 : IsHeader h H v)
    (h2 : IsHeader h H' v') : H = H' ∧ v = v' := by
  obtain ⟨hdr, ⟨_, _, c3, hb⟩, rfl⟩ := (isHeader_iff h H v).1 h1
  obtain ⟨hdr', ⟨_, _, c3', hb'⟩, rfl⟩ := (isHeader_iff h H' v').1 h2
  rw [hb] at hb'
  cases hb'
  exact ⟨rfl, c3.symm.trans c3'⟩

/-- splitting off a prefix of known length -/
theorem append_split {a b x y : Bytes} (h : a ++ x = b ++ y) (hl : a.length = b.length) :
    a = b ∧ x = y := List.append_inj h hl

theorem isTzif_unique (b : Bytes) (H H' : Hdr) (d d' : TzData) (h : IsTzif b H d)
    (h' : IsTzif b H' d') : H = H' ∧ d = d' := by
  rcases h with ⟨h1, blk, tr, rfl, hH, hB, hf, hv⟩ |
    ⟨h1, hdr1, v1, blk1, h2, blk2, footer, tr, rfl, hH1, hv1, hl1, hH2, hv2, hB, hf1, hf2⟩
  · rcases h' with ⟨h1', blk', tr', e, hH', hB', hf', hv'⟩ |
      ⟨h1', hdr1', v1', blk1', h2', blk2', footer', tr', e, hH1', hv1', hl1', hH2', hv2', hB', hf1', hf2'⟩
    · simp only [List.append_assoc] at e
      obtain ⟨rfl, e2⟩ := append_split e (hH.1.trans hH'.1.symm)
      obtain ⟨rfl, _⟩ := isHeader_unique _ _ _ _ _ hH hH'
      obtain ⟨rfl, _⟩ := append_split e2 (hB.1.trans hB'.1.symm)
      refine ⟨rfl, ?_⟩
      rw [isBlock_eq_decode 4 H blk d hB, isBlock_eq_decode 4 H blk d' hB', hf, hf', hv, hv']
    · simp only [List.append_assoc] at e
      obtain ⟨rfl, _⟩ := append_split e (hH.1.trans hH1'.1.symm)
      obtain ⟨_, hv0⟩ := isHeader_unique _ _ _ _ _ hH hH1'
      exact absurd hv0.symm hv1'
  · rcases h' with ⟨h1', blk', tr', e, hH', hB', hf', hv'⟩ |
      ⟨h1', hdr1', v1', blk1', h2', blk2', footer', tr', e, hH1', hv1', hl1', hH2', hv2', hB', hf1', hf2'⟩
    · simp only [List.append_assoc] at e
      obtain ⟨rfl, _⟩ := append_split e (hH1.1.trans hH'.1.symm)
      obtain ⟨_, hv0⟩ := isHeader_unique _ _ _ _ _ hH1 hH'
      exact absurd hv0 hv1
    · simp only [List.append_assoc] at e
      obtain ⟨rfl, e2⟩ := append_split e (hH1.1.trans hH1'.1.symm)
      obtain ⟨rfl, _⟩ := isHeader_unique _ _ _ _ _ hH1 hH1'
      obtain ⟨rfl, e3⟩ := append_split e2 (hl1.trans hl1'.symm)
      obtain ⟨rfl, e4⟩ := append_split e3 (hH2.1.trans hH2'.1.symm)
      obtain ⟨rfl, hver⟩ := isHeader_unique _ _ _ _ _ hH2 hH2'
      obtain ⟨rfl, e5⟩ := append_split e4 (hB.1.trans hB'.1.symm)
      have f1 := footerOf_of d.version footer tr hv2 hf1
      have f2 := footerOf_of d.version footer' tr' hv2 hf1'
      have e' : [10] ++ footer ++ [10] ++ tr = [10] ++ footer' ++ [10] ++ tr' := by
        simp only [List.append_assoc]; exact e5
      rw [e', f2] at f1
      have hfoot : footer' = footer := Option.some.inj f1
      refine ⟨rfl, ?_⟩
      rw [isBlock_eq_decode 8 H blk2 d hB, isBlock_eq_decode 8 H blk2 d' hB', hf2, hf2', hfoot, hver]

end Cctz.Dc
