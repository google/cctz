/-
  The 400-year shift path of `MakeTime` (`TimeLocal`): beyond the last generated year the civil
  second is looked up 400·s years earlier and the instants are moved forward with saturation.
-/
import Cctz.Model.Tz
import Cctz.Spec.TableSem
import Cctz.Proofs.IntLemmas
import Cctz.Proofs.TcMake
import Cctz.Proofs.TableLookup

namespace Cctz.Tc
open Cctz Cctz.Tz Cctz.Spec

theorem ite_inl {c : Prop} [Decidable c] {x y : (CivilLookup ⊕ Int) × Nat} {h' : Nat}
    (hx : ∃ cl, x = (.inl cl, h')) (hy : ∃ cl, y = (.inl cl, h')) :
    ∃ cl, (if c then x else y) = (.inl cl, h') := by
  split <;> assumption

theorem answerAt_inl (z : Zone) (cs : Fields) (first last : Transition) (tr h' : Nat)
    (ns : ¬ (z.extended = true ∧ cs.y > (rd z.lastYear 0).val)) :
    ∃ cl, (answerAt z cs first last tr h').val = (.inl cl, h') := by
  unfold answerAt headAns tailAns uniqueAns inlAns
  simp only [Ck.bindv, Ck.ite_val, Ck.pure_val]
  rw [ite_ite_of_not _ _ ns]
  exact ite_inl (ite_inl (ite_inl ⟨_, rfl⟩ ⟨_, rfl⟩) ⟨_, rfl⟩)
    (ite_inl (ite_inl (ite_inl ⟨_, rfl⟩ ⟨_, rfl⟩) ⟨_, rfl⟩)
      (ite_inl ⟨_, rfl⟩ (ite_inl ⟨_, rfl⟩ ⟨_, rfl⟩)))

theorem findTr_last (z : Zone) (h : Nat) (cs : Fields) (wf : TableWF z) (cso : CivilSorted z)
    (hl : Civil.lt cs (trn z (z.transitions.size - 1)).civilSec = false) :
    (findTr z h cs (trn z 0) (trn z (z.transitions.size - 1))).val = (z.transitions.size, h) := by
  have hn := wf.nonempty
  have hf : Civil.lt cs (trn z 0).civilSec = false := by
    by_cases e : z.transitions.size - 1 = 0
    · rw [e] at hl; exact hl
    · cases hc : Civil.lt cs (trn z 0).civilSec with
      | false => rfl
      | true =>
        have := Tb.lt_trans hc (cso 0 (z.transitions.size - 1) (by omega) (by omega))
        rw [hl] at this; exact absurd this (by simp)
  exact findTr_of_last z h hf hl

theorem core_shift (z : Zone) (h : Nat) (cs : Fields) (ly : Int) (wf : TableWF z) (cso : CivilSorted z)
    (hext : z.extended = true) (hly : z.lastYear = some ly) (hy : cs.y > ly)
    (hp : Civil.lt (trn z (z.transitions.size - 1)).prevCivilSec cs = true)
    (hl : Civil.lt cs (trn z (z.transitions.size - 1)).civilSec = false) :
    (makeTimeCore z h cs).val = (.inr ((cs.y - ly - 1) / 400 + 1), h) := by
  have hn := wf.nonempty
  rw [makeTimeCore_eq]
  simp only [Ck.bindv, Tl.getTrans_val]
  rw [findTr_last z h cs wf cso hl]
  have hy' : cs.y > (rd z.lastYear 0).val := by simp only [hly, rd, Ck.pure_val]; exact hy
  unfold answerAt
  rw [if_neg (Nat.ne_of_gt hn), if_pos rfl, if_pos hp]
  unfold tailAns
  simp only [if_true, hext, Ck.bindv, hy', chk64_val, Ck.pure_val]
  have : (rd z.lastYear 0).val = ly := by simp only [hly, rd, Ck.pure_val]
  rw [this, cdiv_eq, if_pos (by omega)]

theorem shiftYear_valid (cs : Fields) (v : Valid cs) (q : Int) :
    Valid { cs with y := cs.y + 400 * q } ∧
    secNum { cs with y := cs.y + 400 * q } = secNum cs + q * 12622780800 := by
  constructor
  · unfold Valid at *
    simp only [daysInMonth, isLeap_add_400_mul] at *
    exact v
  · simp only [secNum, dayNum_add_400_mul]; omega

theorem yearShift_back (cs : Fields) (v : Valid cs) (s : Int) :
    (yearShift cs (s * -400)).val = { cs with y := cs.y - 400 * s } := by
  have h1 := Tl.yearShift_spec cs v (-s)
  rw [show -s * 400 = s * -400 by omega] at h1
  have h2 := shiftYear_valid cs v (-s)
  rw [show cs.y + 400 * -s = cs.y - 400 * s by omega] at h2
  exact secNum_inj h1.1 h2.1 (by rw [h1.2, h2.2])

theorem timeLocalShift_val (cl : CivilLookup) (s : Int) :
    (timeLocalShift cl s).val =
      { cl with
        pre := if s > 730692561 ∨ cl.pre + s * 12622780800 > i64max then i64max else cl.pre + s * 12622780800
        trans := if s > 730692561 ∨ cl.trans + s * 12622780800 > i64max then i64max else cl.trans + s * 12622780800
        post := if s > 730692561 ∨ cl.post + s * 12622780800 > i64max then i64max else cl.post + s * 12622780800 } := by
  unfold timeLocalShift
  have hc : cdiv i64max Gen.kSecsPer400Years = 730692561 := by decide
  have hk : Gen.kSecsPer400Years = 12622780800 := rfl
  rw [hc, hk]
  by_cases hs : s > 730692561
  · simp only [hs, if_true, true_or, Ck.pure_val]
  · simp only [hs, if_false, false_or, Ck.bindv, chk64_val, Ck.pure_val]
    have e : ∀ tp : Int, (tp > i64max - s * 12622780800) = (tp + s * 12622780800 > i64max) := by
      intro tp; apply propext; constructor <;> intro h <;> omega
    simp only [e, Ck.ite_val, Ck.pure_val, chk64_val]

theorem core_inl (z : Zone) (h : Nat) (cs : Fields)
    (ns : ¬ (z.extended = true ∧ cs.y > (rd z.lastYear 0).val)) :
    ∃ cl h2, (makeTimeCore z h cs).val = (.inl cl, h2) := by
  rw [makeTimeCore_eq]
  simp only [Ck.bindv]
  obtain ⟨cl, hcl⟩ := answerAt_inl z cs (getTrans z 0).val (getTrans z (z.transitions.size - 1)).val
    (findTr z h cs (getTrans z 0).val (getTrans z (z.transitions.size - 1)).val).val.1
    (findTr z h cs (getTrans z 0).val (getTrans z (z.transitions.size - 1)).val).val.2 ns
  exact ⟨cl, _, hcl⟩

theorem makeTime_of_shift (z : Zone) (h : Nat) (cs : Fields) (v : Valid cs) (s : Int)
    (cl : CivilLookup) (h2 : Nat)
    (hcore : (makeTimeCore z h cs).val = (.inr s, h))
    (hinl : (makeTimeCore z h { cs with y := cs.y - 400 * s }).val = (.inl cl, h2)) :
    (makeTime z h cs).val = ((timeLocalShift cl s).val, h2) := by
  unfold makeTime
  simp only [Ck.bindv]
  rw [hcore]
  simp only [Ck.bindv, chk64_val, yearShift_back cs v s]
  rw [hinl]
  rfl

end Cctz.Tc
