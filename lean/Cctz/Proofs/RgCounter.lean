/-
  C01 gluing: a concrete table refuting the first wording of the gluing property
  (`C01Glue.lookup_follows_rule_first_wording`).
  One recorded entry (instant 0, 1970), footer rule tabulated for the years 1000 … 1401: every
  rule instant of those years is before the recorded entry, so nothing is generated, the table is
  just the recorded entry, and `BreakTime` maps every later instant 400·s years back into the time
  before the first entry, i.e. to the default type — whatever the rule says.
-/
import Cctz.Model.Tz
import Cctz.Spec.PosixRule
import Cctz.Spec.TableSem
import Cctz.Properties.C01Rule
import Cctz.Proofs.TableLookup
import Cctz.Proofs.RgZone

namespace Cctz.Rg
open Cctz Cctz.Tz Cctz.Spec

/-- types: 0 = the default (local mean time, say), 1 = standard time, 2 = daylight time -/
def ce1Types : List (Int × Bool) := [(12345, false), (0, false), (3600, true)]

/-- the table: one entry at instant 0 switching to standard time; extended -/
def ce1 : Zone := mkZone ce1Types 0 [(0, 1)]

/-- the rule `N0/0, N100/0` (zero-based days 0 and 100) -/
def ce1Start : Posix.Date := ⟨.N, 0, 0, 0⟩
def ce1End : Posix.Date := ⟨.N, 100, 0, 0⟩

theorem ce1_wf : TableWF ce1 :=
  wf_mkZone _ _ _ (by decide) (by decide) (by decide) (by decide)

theorem ce1_cols : CivilCols ce1 := cols_mkZone _ _ _

theorem ce1_list : ce1.transitions.toList = fill ce1Types 0 [(0, 1)] := toList_mkZone _ _ _

/-- nothing is generated: all rule instants of the years 1000 … 1401 are before instant 0 -/
theorem ce1_gen_empty :
    ((List.range 402).flatMap fun (k : Nat) =>
      C01Rule.yearPair { dstStart := ⟨some ce1Start, some 0⟩, dstEnd := ⟨some ce1End, some 0⟩ } 2 1
        0 0 3600 (1000 + (k : Int))) = [] := by
  rw [List.flatMap_eq_nil_iff]
  intro k hk
  rw [List.mem_range] at hk
  -- January 1st of these years is before that of 1402, more than 100 days before 1970
  have h1 := daysBeforeYear_lt (1000 + (k : Int)) 1402 (by omega)
  have h2 := daysInYear_cases (1000 + (k : Int))
  have h3 : daysBeforeYear 1402 ≤ -100 := by decide
  rw [← dayNum_jan1] at h1
  exact pairList_eq_nil (a := (dayNum (1000 + (k : Int)) 1 1 + (0 : Nat)) * 86400 + 0 - 0)
    (b := (dayNum (1000 + (k : Int)) 1 1 + (100 : Nat)) * 86400 + 0 - 3600) (by omega) (by omega)

/-- the start instant of year 2000 is 2000-01-01 00:00:00 UTC -/
theorem ce1_instant : ruleInstant ce1Start 0 0 2000 = some 946684800 := by decide +kernel

/-- at 2001-09-09 01:46:40 UTC the table answers with the default type -/
theorem ce1_answer : (breakTime ce1 0 1000000000).val.1.offset = 12345 := by
  decide +kernel

end Cctz.Rg
