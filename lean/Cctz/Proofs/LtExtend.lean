/-
  C12Tables and C01Decode helper proofs: what `ExtendTransitions` does to the table: it only appends
  entries, types and designations, appends no entry unless it sets `extended`, and (when no flag was
  raised) every appended time went through `chk64`, hence is an int64 value.
-/
import Cctz.Proofs.LtLogic
import Cctz.Proofs.LdExtend

namespace Cctz.Lt
open Cctz Cctz.Tz Cctz.Ld

theorem extendLoop_G (c : Bool) (p : Posix.TimeZone) (dstTi stdTi : Nat) (lastTime so dO : Int)
    (I : Array Transition → Prop)
    (hI : ∀ a t, I a → (t.typeIndex = dstTi ∨ t.typeIndex = stdTi) ∧ (c = true → inI64 t.unixTime) →
      I (a.push t))
    (n : Nat) (s : ExtState) (hs : I s.trans) :
    G c (extendLoop p dstTi stdTi lastTime so dO n s) (fun r => I r.trans) := by
  induction n generalizing s with
  | zero =>
    unfold extendLoop
    refine G_bind_any fun a => ?_
    refine G_bind_any fun b => ?_
    refine G_chk64_bind _ fun _ => ?_
    refine G_chk64_bind _ fun h1 => ?_
    refine G_chk64_bind _ fun _ => ?_
    refine G_chk64_bind _ fun h2 => ?_
    dsimp only
    apply G_pure
    dsimp only
    exact pair_inv (P := fun t => (t.typeIndex = dstTi ∨ t.typeIndex = stdTi) ∧ (c = true → inI64 t.unixTime))
      hI _ hs _ _ ⟨Or.inl rfl, h1⟩ ⟨Or.inr rfl, h2⟩ _ _
  | succ n ih =>
    unfold extendLoop
    refine G_bind_any fun a => ?_
    refine G_bind_any fun b => ?_
    refine G_chk64_bind _ fun _ => ?_
    refine G_chk64_bind _ fun h1 => ?_
    refine G_chk64_bind _ fun _ => ?_
    refine G_chk64_bind _ fun h2 => ?_
    dsimp only
    refine G_bind_any fun _ => ?_
    refine G_bind_any fun _ => ?_
    refine G_bind_any fun _ => ?_
    refine G_bind_any fun _ => ?_
    refine G_bind_any fun _ => ?_
    refine ih _ ?_
    dsimp only
    exact pair_inv (P := fun t => (t.typeIndex = dstTi ∨ t.typeIndex = stdTi) ∧ (c = true → inI64 t.unixTime))
      hI _ hs _ _ ⟨Or.inl rfl, h1⟩ ⟨Or.inr rfl, h2⟩ _ _

/-- `z'` is `z` with entries, types and designations added at the end: no entry unless `extended`
is set, and (when no flag was raised) only int64 times -/
structure Extends (c : Bool) (z z' : Zone) : Prop where
  trans : ∃ extra : List Transition, z'.transitions.toList = z.transitions.toList ++ extra ∧
    (z'.extended = false → extra = []) ∧
    ∀ t ∈ extra, t.typeIndex < z'.types.size ∧ (c = true → inI64 t.unixTime)
  types : z.types.toList <+: z'.types.toList
  abbrs : z.abbreviations <+: z'.abbreviations
  spec : z'.futureSpec = z.futureSpec
  dflt : z'.defaultType = z.defaultType
  lastYear : z'.extended = true → z'.lastYear.isSome = true

/-- the table `ExtendTransitions` returns, relative to the one it was given -/
def ExtPostT (c : Bool) (z : Zone) (r : Option Zone) : Prop := ∀ z', r = some z' → Extends c z z'

theorem extPostT_none (c : Bool) (z : Zone) : ExtPostT c z none := fun _ h => by cases h

theorem extPostT_same (c : Bool) (z z1 : Zone) (h1 : z1.transitions = z.transitions)
    (h2 : z.types.toList <+: z1.types.toList) (h3 : z.abbreviations <+: z1.abbreviations)
    (h4 : z1.futureSpec = z.futureSpec) (h5 : z1.defaultType = z.defaultType)
    (h6 : z1.extended = false) (b : Bool) :
    ExtPostT c z (if b = true then some z1 else none) := by
  intro z' h
  split at h
  · cases h
    exact ⟨⟨[], by rw [h1, List.append_nil], fun _ => rfl, fun t ht => by cases ht⟩, h2, h3, h4, h5,
      fun h => by rw [h6] at h; cases h⟩
  · cases h

theorem extendTransitions_G (c : Bool) (z : Zone) : G c (extendTransitions z) (ExtPostT c z) := by
  unfold extendTransitions
  dsimp only
  split
  · apply G_pure
    exact extPostT_same c z { z with extended := false } rfl (List.prefix_refl _) (List.prefix_refl _)
      rfl rfl rfl true
  split
  · exact G_pure _ (extPostT_none c z)
  rename_i posix hp
  refine G_bind_any fun stdOff => ?_
  split
  · exact G_pure _ (extPostT_none c z)
  rename_i z1 stdTi hg1
  obtain ⟨e1, e2, e3, _, e5, e6, e7, e8⟩ := getTransitionType_spec _ _ _ _ _ _ hg1
  dsimp only at e1 e2 e3 e5 e6 e7
  refine G_bind_any fun back => ?_
  split
  · refine G_bind_any fun e => ?_
    exact G_pure _ (extPostT_same c z z1 e1 e6 e7 e5 e2 e3 e)
  refine G_bind_any fun dstOff => ?_
  split
  · exact G_pure _ (extPostT_none c z)
  rename_i z2 dstTi hg2
  obtain ⟨f1, f2, f3, _, f5, f6, f7, f8⟩ := getTransitionType_spec _ _ _ _ _ _ hg2
  refine G_bind_any fun ay => ?_
  split
  · refine G_bind_any fun e => ?_
    exact G_pure _ (extPostT_same c z z2 (f1.trans e1) (e6.trans f6) (e7.trans f7) (f5.trans e5)
      (f2.trans e2) (f3.trans e3) e)
  try dsimp only
  refine G_bind_any fun lastTT => ?_
  refine G_bind_any fun lt => ?_
  refine G_bind_any fun jan1 => ?_
  refine G_bind_any fun _ => ?_
  refine G_bind_any fun _ => ?_
  refine G_bind _ (extendLoop_G c posix dstTi stdTi _ _ _
    (fun a => ∃ extra : List Transition, a.toList = z.transitions.toList ++ extra ∧
      ∀ t ∈ extra, t.typeIndex < z2.types.size ∧ (c = true → inI64 t.unixTime)) ?_ _ _ ?_) fun s hsI => ?_
  · rintro a t ⟨extra, ha1, ha2⟩ ht
    refine ⟨extra ++ [t], by rw [Array.toList_push, ha1, List.append_assoc], ?_⟩
    intro x hx
    rw [List.mem_append, List.mem_singleton] at hx
    rcases hx with hx | rfl
    · exact ha2 x hx
    · refine ⟨?_, ht.2⟩
      rcases ht.1 with h | h <;> rw [h]
      · exact f8
      · exact Nat.lt_of_lt_of_le e8 (size_le_of_prefix f6)
  · dsimp only
    rw [f1, e1]
    exact ⟨[], by rw [List.append_nil], fun t ht => by cases ht⟩
  · apply G_pure
    intro z' h
    cases h
    obtain ⟨extra, h1, h2⟩ := hsI
    exact ⟨⟨extra, h1, (fun h => by cases h), h2⟩, e6.trans f6, e7.trans f7, f5.trans e5, f2.trans e2,
      fun _ => rfl⟩

end Cctz.Lt
