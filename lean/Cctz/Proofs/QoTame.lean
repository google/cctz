/-
  C10: `Tame` is one second too weak for `BreakTime`.

  `Tame.ext` asks for `7161147007 ≤` the last entry of an extended table, where
  `7161147007 = INT64_MAX mod kSecsPer400Years`.  At equality the lookup of `max()` computes
  `diff = 730692561 * kSecsPer400Years` exactly, `shift = 730692562`, and `shift * kSecsPer400Years`
  exceeds `INT64_MAX` (`breakTime_boundary_ovf`; a concrete table and file in `QoWitness.lean`).
  `Tame'` adds the strict inequality; everything else in C10 holds for `Tame` itself.
-/
import Cctz.Proofs.QoBreak

namespace Cctz.Qo
open Cctz Cctz.Tz Cctz.Spec

/-- `Tame` with the last entry of an extended table strictly beyond `INT64_MAX mod kSecsPer400Years` -/
structure Tame' (z : Zone) : Prop extends Tame z where
  /-- a rule-extended table ends with a transition of the year `last_year_`, which is 401 years after
  the year of the last recorded transition; every table whose records reach 1796 therefore ends after
  2196-12-04 15:30:07 UTC.  (Needed: at equality `shift * kSecsPer400Years` overflows for `max()`.) -/
  extStrict : z.extended = true → 7161147008 ≤ timeOf z (z.transitions.size - 1)

/-- the bound is sharp: on *every* extended table whose last entry is exactly
`INT64_MAX mod kSecsPer400Years` (and whose first entry is not beyond it), `BreakTime(max())`
overflows in `shift * kSecsPer400Years` -/
theorem breakTime_boundary_ovf (z : Zone) (hint : Nat) (hext : z.extended = true)
    (hlast : timeOf z (z.transitions.size - 1) = 7161147007) (hfirst : timeOf z 0 ≤ i64max) :
    ¬ NoOvf (breakTime z hint i64max) := by
  intro h
  unfold breakTime at h
  simp only [novf_bind, Tl.getTrans_val, unixTime_eq, hlast] at h
  obtain ⟨_, _, h⟩ := h
  have hc : (!decide (i64max < timeOf z 0)) = true ∧ i64max ≥ 7161147007 ∧ z.extended = true :=
    ⟨by simp only [Bool.not_eq_true', decide_eq_false_iff_not]; omega, by decide, hext⟩
  rw [if_pos hc] at h
  simp only [novf_bind, chk64_val, novf_chk64] at h
  exact absurd h.2.2.1 (by decide)

end Cctz.Qo
