/-
  Decimal numerals as byte strings: `numVal`, digits of a natural number (`natDigits`/`decNat`),
  and the accumulating fold used by the digit loops.
-/
import Cctz.Model.Parse
import Cctz.Spec.FormatSpec
import Cctz.Spec.PosixGrammar
import Cctz.Proofs.FmRender

namespace Cctz.Pa
open Cctz Cctz.Bytes Cctz.Format Cctz.Parse Cctz.Spec

/-- one digit appended to the accumulator -/
def dstep (a : Int) (c : UInt8) : Int := a * 10 + ((c.toNat : Int) - 48)

/-- the value after reading `ds` starting from accumulator `a` -/
def nv (a : Int) (ds : Bytes) : Int := ds.foldl dstep a

theorem numVal_eq_nv (ds : Bytes) : numVal ds = nv 0 ds := rfl

@[simp] theorem nv_nil (a : Int) : nv a [] = a := rfl
@[simp] theorem nv_cons (a : Int) (c : UInt8) (ds : Bytes) : nv a (c :: ds) = nv (dstep a c) ds := rfl
theorem nv_append (a : Int) (l m : Bytes) : nv a (l ++ m) = nv (nv a l) m := by
  simp [nv, List.foldl_append]

theorem isDigit_iff (c : UInt8) : isDigit c = true ↔ 48 ≤ c.toNat ∧ c.toNat ≤ 57 := by
  simp [isDigit, UInt8.le_iff_toNat_le]

theorem isDigit_false_iff (c : UInt8) : isDigit c = false ↔ ¬ (48 ≤ c.toNat ∧ c.toNat ≤ 57) := by
  rw [← isDigit_iff]; simp

theorem dstep_bounds (a : Int) (c : UInt8) (h : isDigit c = true) :
    a * 10 ≤ dstep a c ∧ dstep a c ≤ a * 10 + 9 := by
  rw [isDigit_iff] at h; unfold dstep; omega

theorem nv_ge (ds : Bytes) : ∀ (a : Int), 0 ≤ a → (∀ c ∈ ds, isDigit c = true) → a ≤ nv a ds := by
  induction ds with
  | nil => intro a _ _; simp
  | cons c ds ih =>
    intro a ha h
    have hc := dstep_bounds a c (h c (by simp))
    have := ih (dstep a c) (by omega) (fun x hx => h x (by simp [hx]))
    simp only [nv_cons]; omega

theorem nv_nonneg (ds : Bytes) (a : Int) (ha : 0 ≤ a) (h : ∀ c ∈ ds, isDigit c = true) :
    0 ≤ nv a ds := by
  have := nv_ge ds a ha h; omega

/-- shifting the start value: `nv a ds = a * 10^|ds| + nv 0 ds` -/
theorem nv_shift (ds : Bytes) : ∀ a : Int, nv a ds = a * 10 ^ ds.length + nv 0 ds := by
  induction ds with
  | nil => intro a; simp
  | cons c ds ih =>
    intro a
    simp only [nv_cons, List.length_cons]
    rw [ih (dstep a c), ih (dstep 0 c)]
    unfold dstep
    rw [Int.pow_succ, Int.add_mul, Int.add_mul, Int.zero_mul, Int.zero_mul, Int.zero_add,
      Int.mul_assoc, Int.mul_comm (10 ^ ds.length) 10]
    omega

theorem nv_lt_pow (ds : Bytes) (h : ∀ c ∈ ds, isDigit c = true) : nv 0 ds < 10 ^ ds.length := by
  induction ds with
  | nil => simp
  | cons c ds ih =>
    have hc := dstep_bounds 0 c (h c (by simp))
    have := ih (fun x hx => h x (by simp [hx]))
    simp only [nv_cons, List.length_cons]
    rw [nv_shift, Int.pow_succ]
    have hP : (0 : Int) ≤ 10 ^ ds.length := Int.pow_nonneg (by decide)
    have : dstep 0 c * 10 ^ ds.length ≤ 9 * 10 ^ ds.length :=
      Int.mul_le_mul_of_nonneg_right (by omega) hP
    omega

theorem nv_replicate_zero (k : Nat) (a : Int) : nv a (List.replicate k 48) = a * 10 ^ k := by
  induction k generalizing a with
  | zero => simp
  | succ k ih =>
    simp only [List.replicate_succ, nv_cons, ih]
    have : dstep a 48 = a * 10 := by unfold dstep; simp
    rw [this, Int.pow_succ, Int.mul_assoc, Int.mul_comm 10]

/-! ### the byte for a digit -/

def dch (n : Nat) : UInt8 := UInt8.ofNat (48 + n)

theorem dch_toNat (n : Nat) (h : n < 10) : (dch n).toNat = 48 + n := by
  unfold dch; rw [UInt8.toNat_ofNat_of_lt']; simp [UInt8.size]; omega

theorem dch_isDigit (n : Nat) (h : n < 10) : isDigit (dch n) = true := by
  rw [isDigit_iff, dch_toNat n h]; omega

theorem dstep_dch (a : Int) (n : Nat) (h : n < 10) : dstep a (dch n) = a * 10 + n := by
  unfold dstep; rw [dch_toNat n h]; omega

/-! ### digits of a natural number -/

theorem natDigits_eq_decNat (n : Nat) : natDigits n = decNat n := rfl

theorem decNat_rec (n : Nat) :
    decNat n = if n < 10 then [dch n] else decNat (n / 10) ++ [dch (n % 10)] := by
  unfold decNat
  rw [Nat.toDigits_eq_if (by decide)]
  split
  · rename_i h
    simp [dch, Nat.toNat_digitChar_of_lt_ten h]
  · have h : n % 10 < 10 := by omega
    simp [dch, Nat.toNat_digitChar_of_lt_ten h]

theorem decNat_digits (n : Nat) : ∀ c ∈ decNat n, isDigit c = true := by
  induction n using Nat.strongRecOn with
  | _ n ih =>
    rw [decNat_rec]; split
    · intro c hc; simp at hc; subst hc; exact dch_isDigit n ‹_›
    · intro c hc
      simp only [List.mem_append, List.mem_singleton] at hc
      rcases hc with hc | hc
      · exact ih (n / 10) (by omega) c hc
      · subst hc; exact dch_isDigit _ (by omega)

theorem decNat_ne_nil (n : Nat) : decNat n ≠ [] := by
  rw [decNat_rec]; split <;> simp

theorem nv_decNat (n : Nat) : nv 0 (decNat n) = n := by
  induction n using Nat.strongRecOn with
  | _ n ih =>
    rw [decNat_rec]; split
    · simp [dstep_dch 0 n ‹_›]
    · rw [nv_append, ih (n / 10) (by omega)]
      simp only [nv_cons, nv_nil]
      rw [dstep_dch _ _ (by omega)]; omega

theorem numVal_decNat (n : Nat) : numVal (decNat n) = n := nv_decNat n

theorem decNat_length_le (n k : Nat) (hk : 0 < k) : (decNat n).length ≤ k ↔ n < 10 ^ k := by
  unfold decNat; rw [List.length_map]; exact Nat.length_toDigits_le_iff (by decide) hk

end Cctz.Pa
