/-
  No flag (no undefined behaviour on the C++ side) in the tail of `parse`, component by component.
-/
import Cctz.Proofs.PdTop
import Cctz.Proofs.PdWeekOk

namespace Cctz.Pd
open Cctz Cctz.Bytes Cctz.Format Cctz.Parse Cctz.Spec Cctz.Tz Cctz.Pa

/-! ### the built-in UTC table -/

theorem reset_ok : (resetToBuiltinUTC 0).ok := by decide +kernel

theorem builtin_times : ∀ i : Nat, i < 12 → -1152921504606846976 ≤ Gen.builtinUtcTransitions.getD i 0 ∧
    Gen.builtinUtcTransitions.getD i 0 ≤ 1152921504606846976 := by decide

theorem fixed_tame' (off : Int) (ho : -90000 < off ∧ off < 90000) : Qo.Tame' (Tl.fixedZone off) where
  wf := Tl.fixed_wf off
  cols := Tl.fixed_cols off
  sorted := Tl.fixed_civilSorted off
  offs k hk := by
    have hk1 : k < 1 := hk
    have : k = 0 := by omega
    subst this
    rw [Tl.fixed_off0]; exact ho
  times i hi := by
    rw [Tl.fixed_size] at hi
    rw [Tl.fixed_timeOf off i hi]; exact builtin_times i hi
  halves := by
    rw [Tl.fixed_size, Tl.fixed_timeOf off 0 (by decide), Tl.fixed_timeOf off 11 (by decide)]; decide
  ext h := Bool.noConfusion h
  extStrict h := Bool.noConfusion h

theorem utc_tame' : Qo.Tame' (Tl.fixedZone 0) := fixed_tame' 0 (by decide)

theorem utc_nonext : (Tl.fixedZone 0).extended = false := rfl

theorem civilNew_ok_date (y m d hh mm ss : Int) (hy : inI64 y) (hm1 : 1 ≤ m) (hm2 : m ≤ 12) (hd1 : 1 ≤ d)
    (hd2 : d ≤ 31) (h1 : 0 ≤ hh ∧ hh ≤ 23) (h2 : 0 ≤ mm ∧ mm ≤ 59) (h3 : 0 ≤ ss ∧ ss ≤ 59) :
    (Civil.civilNew .second y m d hh mm ss).ok ∧ (Civil.civilNew .second y m d hh mm ss).val.y = y := by
  have hyr := norm_year y m d hh mm ss hm1 hm2 hd1 hd2 h1 h2 h3
  refine ⟨?_, hyr⟩
  unfold Civil.civilNew
  rw [Ck.map_ok]
  have hsmall : ∀ v : Int, -100 ≤ v → v ≤ 100 → inI64 v := by
    intro v a b; unfold inI64 i64min i64max; omega
  apply nSec_ok y m d hh mm ss (hsmall _ (by omega) (by omega)) (hsmall _ (by omega) (by omega))
    (hsmall _ (by omega) (by omega)) (hsmall _ (by omega) (by omega))
  · intro hne
    have : Int.tdiv m 12 = 0 := by
      rw [Int.tdiv_eq_ediv_of_nonneg (by omega)]; omega
    rw [this, Int.add_zero]; exact hy
  · have : (m - 1) / 12 = 0 := by omega
    rw [this, Int.add_zero]; exact hy
  · rw [hyr]; exact hy

theorem cmax_ok : (Civil.civilNew .second i64max 12 31 23 59 59).ok :=
  (civilNew_ok_date i64max 12 31 23 59 59 (by decide) (by decide) (by decide) (by decide) (by decide)
    (by decide) (by decide) (by decide)).1

theorem cmin_ok : (Civil.civilNew .second i64min 1 1 0 0 0).ok :=
  (civilNew_ok_date i64min 1 1 0 0 0 (by decide) (by decide) (by decide) (by decide) (by decide)
    (by decide) (by decide) (by decide)).1

theorem year_in_range (c : Fields) (vc : Valid c) (h1 : secNum Wr.cminF ≤ secNum c)
    (h2 : secNum c ≤ secNum Wr.cmaxF) : inI64 c.y :=
  ⟨year_le_of_unitNum_le .second Wr.valid_cminF vc trivial trivial h1,
   year_le_of_unitNum_le .second vc Wr.valid_cmaxF trivial trivial h2⟩

theorem lim_ok (c : Fields) (off : Int) (vc : Valid c) (hy : inI64 c.y) (ho : -100000 < off ∧ off < 100000)
    (h1 : secNum Wr.cminF ≤ secNum c + off) (h2 : secNum c + off ≤ secNum Wr.cmaxF) :
    (Civil.civilAdd .second c off).ok := by
  obtain ⟨v, _, u⟩ := civilAdd_spec .second c off vc trivial
  replace u : secNum (Civil.civilAdd .second c off).val = secNum c + off := u
  exact civilAdd_ok .second c off vc trivial hy (by unfold inI64 i64min i64max; omega)
    (year_in_range _ v (u ▸ h1) (u ▸ h2))

theorem guard_ok (cs : Fields) (off : Int) (ho : -100000 < off ∧ off < 100000) :
    (if off < 0 then do
        let lim ← Civil.civilAdd .second Wr.cmaxF off
        pure (Civil.lt lim cs)
      else if off > 0 then do
        let lim ← Civil.civilAdd .second Wr.cminF off
        pure (Civil.lt cs lim)
      else pure false : Ck Bool).ok := by
  have e1 := Wr.secNum_cmaxF
  have e2 := Wr.secNum_cminF
  split
  · rw [Ck.bind_ok]
    exact ⟨lim_ok _ off Wr.valid_cmaxF (by decide) ho (by omega) (by omega), Ck.pure_ok _⟩
  · split
    · rw [Ck.bind_ok]
      exact ⟨lim_ok _ off Wr.valid_cminF (by decide) ho (by omega) (by omega), Ck.pure_ok _⟩
    · exact Ck.pure_ok _

theorem civilSub_ok_guard (cs : Fields) (off : Int) (hv : Valid cs) (hy : inI64 cs.y)
    (ho : -100000 < off ∧ off < 100000) (hg : ¬ guardVal cs off = true) :
    (Civil.civilSub .second cs off).ok ∧ inI64 (Civil.civilSub .second cs off).val.y := by
  obtain ⟨vC, sC⟩ := civilSub_second cs off hv
  have hlo := cmin_le_secNum cs hv hy.1
  have hhi := secNum_le_cmax cs hv hy.2
  rw [guardVal_iff cs off hv] at hg
  have hyr : inI64 (Civil.civilSub .second cs off).val.y := by
    apply year_in_range _ vC <;> rw [sC] <;> omega
  exact ⟨civilSub_ok .second cs off hv trivial hy (by unfold inI64 i64min i64max; omega) hyr, hyr⟩

theorem finish_flags (ptz : Zone) (cs : Fields) (vc : Valid cs) (hy : inI64 cs.y) (tp : Qo.Tame' ptz) :
    (makeTime ptz 0 cs).ok ∧ (breakTime ptz 0 i64max).ok ∧ (breakTime ptz 0 i64min).ok :=
  ⟨Qo.makeTime_ok_of tp.toTame 0 cs vc hy,
   Qo.breakTime_ok_of tp.toTame tp.extStrict 0 i64max (by decide),
   Qo.breakTime_ok_of tp.toTame tp.extStrict 0 i64min (by decide)⟩

theorem tmLo_of_tmOK61 (tm : Tm) (h : TmOK61 tm) : TmLo tm := by
  unfold TmOK61 inI32 at h; unfold TmLo inI32; omega

theorem tmOK61_of_tmOK (tm : Tm) (h : TmOK tm) : TmOK61 tm := by
  unfold TmOK TodOK inI32 at h; unfold TmOK61 inI32; omega

theorem adjTm_tmLo (st : PState) (h : TmLo st.tm) : TmLo (adjTm st) := by
  unfold adjTm
  split
  · unfold TmLo inI32 at h ⊢; dsimp only; omega
  · exact h

/-- no flag, from facts about the final loop state alone: hour, minute, month, day of its `tm`
within the POSIX ranges, seconds non-negative, `tm_year` an int.  (Before the repair F20 this needed
seconds ≤ 60, or seconds ≤ 61 and a bounded year.) -/
theorem parse_flags_core (sp : Strptime) (fmt input : Bytes) (z : Zone) (tz : Qo.Tame' z)
    (htm0 : TmLo (loopEnd sp fmt input).tm) : (parse sp fmt input z).ok := by
  have hI := loopEnd_inv sp fmt input
  have htm := adjTm_tmLo _ htm0
  clear htm0
  unfold parse
  unfold loopEnd at hI htm
  extract_lets data st0 st tm0 tm
  change Inv sp st at hI
  change TmLo (adjTm st) at htm
  have htmeq : tm = adjTm st := rfl
  clear_value st tm
  subst htmeq
  clear tm0
  generalize st.data = od
  cases od with
  | none => exact Ck.pure_ok _
  | some d =>
  simp only []
  refine Ck.ok_ite (fun _ => Ck.pure_ok _) (fun _ => ?_)
  refine Ck.ok_ite (fun _ => Ck.pure_ok _) (fun _ => ?_)
  rw [Ck.bind_ok]
  refine ⟨reset_ok, ?_⟩
  rw [Tl.reset_val, Ck.bind_ok]
  have hoR := hI.offR
  refine ⟨?_, ?_⟩
  · refine Ck.ok_ite (fun _ => ?_) (fun _ => Ck.pure_ok _)
    rw [Ck.bind_ok, chk32_ok]
    exact ⟨by unfold inI32 i32min i32max; omega, Ck.pure_ok _⟩
  rw [secAdj_val]
  -- the seconds check of the repair F20
  refine Ck.ok_ite (fun _ => Ck.pure_ok _) (fun hs59 => ?_)
  obtain ⟨g1, g2, g3, g4, g5, m1, m2, d1, d2, hy32⟩ := htm
  have htm' : (secAdj st).1 = _ := congrArg Prod.fst (secAdj_eq st)
  have t1 : 0 ≤ (secAdj st).1.hour ∧ (secAdj st).1.hour ≤ 23 := by rw [htm']; exact ⟨g1, g2⟩
  have t2 : 0 ≤ (secAdj st).1.min ∧ (secAdj st).1.min ≤ 59 := by rw [htm']; exact ⟨g3, g4⟩
  have t3 : 0 ≤ (secAdj st).1.sec ∧ (secAdj st).1.sec ≤ 59 := by
    refine ⟨?_, by omega⟩
    rw [htm']; dsimp only; split <;> omega
  have hyear := secAdj_year st
  have hoff := secAdj_off st
  have hflds : (secAdj st).1.mon = (adjTm st).mon ∧ (secAdj st).1.mday = (adjTm st).mday := by
    rw [htm']; exact ⟨rfl, rfl⟩
  have hl := leap_range st
  have hoR' : -100000 < (secAdj st).2.1 ∧ (secAdj st).2.1 < 100000 := by omega
  rw [Ck.bind_ok]
  refine ⟨?_, ?_⟩
  · refine Ck.ok_ite (fun _ => Ck.ok_ite (fun _ => Ck.pure_ok _) (fun _ => ?_)) (fun _ => Ck.pure_ok _)
    rw [Ck.bind_ok, chk64_ok, hyear]
    exact ⟨by unfold inI32 i32min i32max at hy32; unfold inI64 i64min i64max; omega, Ck.pure_ok _⟩
  rw [yearOpt_val, yearOpt_eq]
  by_cases hyfit : st.sawYear = false ∧ (adjTm st).year > i64max - 1900
  · rw [if_pos hyfit]; exact Ck.pure_ok _
  rw [if_neg hyfit]
  simp only []
  have hyin : inI64 (yearOf st) := by
    unfold yearOf
    by_cases hs : st.sawYear = true
    · rw [if_pos hs]; exact hI.yr hs
    · rw [if_neg hs]
      unfold inI32 i32min i32max at hy32; unfold inI64 i64min i64max; omega
  have hwk := hI.wk
  rw [Ck.bind_ok]
  refine ⟨Ck.ok_ite (fun h => fromWeek_ok _ _ _ _ ⟨by omega, hwk.2⟩ hyin) (fun _ => Ck.pure_ok _), ?_⟩
  rw [weekVal_val]
  -- what the week step hands on: an int64 year, month and day in range, the same time of day
  have hwv : ∀ p, weekVal st (yearOf st) (secAdj st).1 = some p →
      inI64 p.1 ∧ 0 ≤ p.2.mon ∧ p.2.mon ≤ 11 ∧ 1 ≤ p.2.mday ∧ p.2.mday ≤ 31 ∧
      p.2.hour = (secAdj st).1.hour ∧ p.2.min = (secAdj st).1.min ∧ p.2.sec = (secAdj st).1.sec := by
    intro p hp
    unfold weekVal at hp
    by_cases hw : st.weekNum = -1
    · rw [if_neg (by simpa using hw)] at hp
      simp only [Option.some.injEq] at hp
      subst hp
      dsimp only
      exact ⟨hyin, by omega, by omega, by omega, by omega, rfl, rfl, rfl⟩
    · rw [if_pos hw, fromWeek_val, fromWeekVal_eq] at hp
      cases hwd : weekDate st.weekNum st.weekStartSunday (yearOf st) (secAdj st).1.wday with
      | none => rw [hwd] at hp; cases hp
      | some q =>
        rw [hwd] at hp
        simp only [Option.map_some, Option.some.injEq] at hp
        subst hp
        obtain ⟨y', m', d'⟩ := q
        obtain ⟨h1, h2, _⟩ := weekDate_some _ _ _ _ _ _ _ hyin hwd
        have p31 := daysInMonth_pos y' m'
        obtain ⟨a1, a2, a3, a4⟩ := h2
        exact ⟨h1, by dsimp only; omega, by dsimp only; omega, a3, by dsimp only; omega, rfl, rfl, rfl⟩
  cases hwvv : weekVal st (yearOf st) (secAdj st).1 with
  | none => exact Ck.pure_ok _
  | some p =>
  obtain ⟨year, tm⟩ := p
  obtain ⟨hyin', n1, n2, e1, e2, eh, em, es⟩ := hwv _ hwvv
  dsimp only at hyin' n1 n2 e1 e2 eh em es
  rw [← eh] at t1; rw [← em] at t2; rw [← es] at t3
  simp only []
  rw [Ck.bind_ok, chk32_ok, chk32_val]
  refine ⟨by unfold inI32 i32min i32max; omega, ?_⟩
  obtain ⟨cok, cyr⟩ := civilNew_ok_date year (tm.mon + 1) tm.mday
    tm.hour tm.min tm.sec hyin' (by omega) (by omega) (by omega) (by omega)
    t1 t2 t3
  rw [← cyr] at hyin'
  obtain ⟨cv, _⟩ := civilNew_second year (tm.mon + 1) tm.mday tm.hour tm.min tm.sec
  rw [Ck.bind_ok]
  refine ⟨cok, ?_⟩
  generalize (Civil.civilNew Tag.second year (tm.mon + 1) tm.mday tm.hour tm.min tm.sec).val = cs at hyin' cv
  refine Ck.ok_ite (fun _ => Ck.pure_ok _) (fun _ => ?_)
  rw [Ck.bind_ok]
  refine ⟨cmax_ok, ?_⟩
  rw [Wr.cmax_val, Ck.bind_ok]
  refine ⟨cmin_ok, ?_⟩
  rw [Wr.cmin_val, Ck.bind_ok]
  refine ⟨guard_ok cs _ hoR', ?_⟩
  rw [guardVal_val]
  refine Ck.ok_ite (fun _ => Ck.pure_ok _) (fun hg => ?_)
  obtain ⟨sok, syr⟩ := civilSub_ok_guard cs (secAdj st).2.1 cv hyin' hoR' hg
  obtain ⟨sv, _⟩ := civilSub_second cs (secAdj st).2.1 cv
  rw [Ck.bind_ok]
  refine ⟨sok, ?_⟩
  generalize (Civil.civilSub Tag.second cs (secAdj st).2.1).val = cs2 at syr sv
  have tp : Qo.Tame' (if st.sawOffset = true then Tl.fixedZone 0 else z) := by
    split
    · exact utc_tame'
    · exact tz
  generalize (if st.sawOffset = true then Tl.fixedZone 0 else z) = ptz at tp
  obtain ⟨mk, bmax, bmin⟩ := finish_flags ptz cs2 sv syr tp
  rw [Ck.bind_ok]
  refine ⟨mk, ?_⟩
  -- the check against min() follows the check against max() on both of its ways out
  refine Ck.ok_ite (fun _ => ?_) (fun _ => ?_)
  rw [Ck.bind_ok]
  refine ⟨bmax, Ck.ok_ite (fun _ => Ck.pure_ok _) (fun _ => ?_)⟩
  all_goals
    refine Ck.ok_ite (fun _ => ?_) (fun _ => Ck.pure_ok _)
    rw [Ck.bind_ok]
    exact ⟨bmin, Ck.ok_ite (fun _ => Ck.pure_ok _) (fun _ => Ck.pure_ok _)⟩

/-- no flag when strptime keeps `tm` within the POSIX ranges (seconds ≤ 60): no bound on the year -/
theorem parse_flags (sp : Strptime) (fmt input : Bytes) (z : Zone) (hsp : SpTm sp) (tz : Qo.Tame' z) :
    (parse sp fmt input z).ok := by
  have h := (loopEnd_inv sp fmt input).tmok hsp
  exact parse_flags_core sp fmt input z tz (tmLo_of_tmOK61 _ (tmOK61_of_tmOK _ h))

end Cctz.Pd
