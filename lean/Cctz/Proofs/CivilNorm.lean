/-
  Normalisation of civil fields (`n_sec` … `n_day`) against the calendar.  The four chunk loops of
  `n_day` each establish a `DayStep` (same day, later year) and raise no flag under `LoopFits`;
  `n_day` is cut into phases (`NDay`).  Then, level by level, `nX_norm` (the result is a valid date
  with the stated day number and time of day, `NormSpec`) and `nX_ok` (no flag when the inputs leave
  room for the carries), and last what `align` does to the unit count.
-/
import Cctz.Proofs.Calendar
namespace Cctz
open Cctz.Spec

/-- the "leap index" offset of `year_index`/`days_per_year` -/
local notation "lix(" m ")" => b2i (decide (m > 2))

theorem lix_range (m : Int) : 0 ≤ lix(m) ∧ lix(m) ≤ 1 := by
  simp only [b2i]; split <;> omega

/-! ## the chunk loops of `n_day`

Each loop strips whole chunks of days (a century, four years, a year, a month) off the day and
moves the date on by as much. -/

/-- `(ey', m', d')` denotes the same day as `(ey, m, d)`, later in the calendar by no more years
than days were taken off `d` -/
structure DayStep (ey m d ey' m' d' : Int) : Prop where
  day : dayNum ey' m' d' = dayNum ey m d
  lo : ey ≤ ey'
  hi : ey' + d' ≤ ey + d
  pos : 0 < d → 0 < d'
  le : d' ≤ d

theorem DayStep.refl (ey m d : Int) : DayStep ey m d ey m d :=
  ⟨rfl, Int.le_refl _, Int.le_refl _, id, Int.le_refl _⟩

theorem DayStep.trans {ey m d e1 m1 d1 e2 m2 d2 : Int} (h1 : DayStep ey m d e1 m1 d1)
    (h2 : DayStep e1 m1 d1 e2 m2 d2) : DayStep ey m d e2 m2 d2 :=
  ⟨h2.day.trans h1.day, Int.le_trans h1.lo h2.lo, Int.le_trans h2.hi h1.hi,
    fun h => h2.pos (h1.pos h), Int.le_trans h2.le h1.le⟩

/-- one chunk: `n` days are the way from `(ey, m)` to `(e1, m1)`, at most `n` years on -/
theorem DayStep.strip {ey m d e1 m1 n : Int} (hstep : dayNum e1 m1 (d - n) = dayNum ey m (d - n) + n)
    (he : ey ≤ e1 ∧ e1 ≤ ey + n) (hd : n < d) : DayStep ey m d e1 m1 (d - n) := by
  refine ⟨?_, he.1, by omega, fun _ => by omega, by omega⟩
  rw [hstep, ← dayNum_linear, show d - n + n = d by omega]

theorem centuryLoop_spec (m ey d yi : Int) (hyi : yi = (ey + lix(m)) % 400) :
    DayStep ey m d (Civil.centuryLoop ey d yi).val.1 m (Civil.centuryLoop ey d yi).val.2.1 ∧
      (Civil.centuryLoop ey d yi).val.2.2 = ((Civil.centuryLoop ey d yi).val.1 + lix(m)) % 400 := by
  fun_induction Civil.centuryLoop ey d yi with
  | case1 ey d yi n h => exact ⟨.refl .., hyi⟩
  | case2 ey d yi n h ih =>
    simp only [Ck.bindv', chk64_val]
    have hn : 36524 ≤ n := Civil.daysPerCentury_pos yi
    simp only [dite_eq_ite] at ih
    have ih := ih (ey + 100) (by omega)
    subst hyi
    exact ⟨(DayStep.strip (dayNum_add_century ..) (by omega) (by omega)).trans ih.1, ih.2⟩

theorem fourLoop_spec (m ey d yi : Int) (hyi : yi = (ey + lix(m)) % 400) :
    DayStep ey m d (Civil.fourLoop ey d yi).val.1 m (Civil.fourLoop ey d yi).val.2.1 := by
  fun_induction Civil.fourLoop ey d yi with
  | case1 ey d yi n h => exact .refl ..
  | case2 ey d yi n h ih =>
    simp only [Ck.bindv', chk64_val]
    have hn : 1460 ≤ n := Civil.daysPer4Years_pos yi
    simp only [dite_eq_ite] at ih
    have ih := ih (ey + 4) (by omega)
    subst hyi
    exact (DayStep.strip (dayNum_add_4years ..) (by omega) (by omega)).trans ih

theorem yearLoop_spec (m ey d : Int) :
    DayStep ey m d (Civil.yearLoop m ey d).val.1 m (Civil.yearLoop m ey d).val.2 := by
  fun_induction Civil.yearLoop m ey d with
  | case1 ey d h => exact .refl ..
  | case2 ey d h ih =>
    simp only [Ck.bindv', chk64_val]
    have hn := Civil.daysPerYear_pos ey m
    exact (DayStep.strip (dayNum_add_year ..) (by omega) (by omega)).trans (ih (ey + 1))

theorem monthLoop_spec (ey m d : Int) (h1 : 1 ≤ m) (h2 : m ≤ 12) :
    DayStep ey m d (Civil.monthLoop ey m d).val.1 (Civil.monthLoop ey m d).val.2.1
        (Civil.monthLoop ey m d).val.2.2 ∧
      1 ≤ (Civil.monthLoop ey m d).val.2.1 ∧ (Civil.monthLoop ey m d).val.2.1 ≤ 12 ∧
      (Civil.monthLoop ey m d).val.2.2 ≤
        daysInMonth (Civil.monthLoop ey m d).val.1 (Civil.monthLoop ey m d).val.2.1 := by
  fun_induction Civil.monthLoop ey m d with
  | case1 ey m d h =>
    rw [daysPerMonth_val ey m h1 h2] at h
    exact ⟨.refl .., h1, h2, h⟩
  | case2 ey m d h hn =>
    rw [daysPerMonth_val ey m h1 h2] at hn
    have := daysInMonth_pos ey m; omega
  | case3 ey m d h hn ih1 ih2 =>
    simp only [Ck.bindv']
    rw [daysPerMonth_val ey m h1 h2] at h ih1 ih2 ⊢
    have hp := daysInMonth_pos ey m
    by_cases hm : m + 1 > 12
    · simp only [hm, if_true, Ck.bindv', chk64_val]
      have hm12 : m = 12 := by omega
      subst hm12
      have ih := ih1 (ey + 1) (by omega) (by omega)
      exact ⟨(DayStep.strip (dayNum_add_month_dec ..) (by omega) (by omega)).trans ih.1, ih.2⟩
    · simp only [hm, if_false]
      have ih := ih2 (by omega) (by omega)
      exact ⟨(DayStep.strip (dayNum_add_month _ _ _ h1 (by omega)) (by omega) (by omega)).trans ih.1,
        ih.2⟩

/-! ### the loops raise no flag -/

theorem daysPerYear_ok (ey m : Int) : (Civil.daysPerYear ey m).ok ↔ inI64 (ey + lix(m)) := by
  simp only [Civil.daysPerYear, Ck.bind_ok, chk64_ok, Ck.pure_ok, and_true]

theorem yearIndex_ok (ey m : Int) : (Civil.yearIndex ey m).ok ↔ inI64 (ey + lix(m)) := by
  simp only [Civil.yearIndex, Ck.bind_ok, chk64_ok, Ck.pure_ok, and_true]

theorem daysPerMonth_ok (ey m : Int) (h1 : 1 ≤ m) (h2 : m ≤ 12) : (Civil.daysPerMonth ey m).ok := by
  simp only [Civil.daysPerMonth, Ck.bind_ok, Ck.pure_ok, and_true, getC_ok, Gen.kDaysPerMonth,
    List.length_cons, List.length_nil]
  omega

/-- year and day with which a chunk loop overflows nowhere: the year only grows, by less than the
day shrinks -/
def LoopFits (ey d : Int) : Prop := i64min ≤ ey ∧ 0 < d ∧ d ≤ i64max ∧ ey + d ≤ i64max

theorem LoopFits.step {ey m d ey' m' d' : Int} (h : LoopFits ey d) (s : DayStep ey m d ey' m' d') :
    LoopFits ey' d' :=
  ⟨Int.le_trans h.1 s.lo, s.pos h.2.1, Int.le_trans s.le h.2.2.1, Int.le_trans s.hi h.2.2.2⟩

theorem LoopFits.strip {ey d n k : Int} (h : LoopFits ey d) (hn : n < d) (hk : 0 ≤ k ∧ k ≤ n) :
    inI64 (d - n) ∧ inI64 (ey + k) ∧ LoopFits (ey + k) (d - n) := by
  simp only [LoopFits, inI64, i64min, i64max] at *; omega

theorem centuryLoop_ok (ey d yi : Int) (hf : LoopFits ey d) : (Civil.centuryLoop ey d yi).ok := by
  fun_induction Civil.centuryLoop ey d yi with
  | case1 ey d yi n h => exact Ck.pure_ok _
  | case2 ey d yi n h ih =>
    have hn : 36524 ≤ n := Civil.daysPerCentury_pos yi
    obtain ⟨a, b, c⟩ := hf.strip (k := 100) (Int.not_le.mp h) (by omega)
    simp only [Ck.bind'_ok, chk64_ok, chk64_val]
    exact ⟨a, b, ih _ c⟩

theorem fourLoop_ok (ey d yi : Int) (hf : LoopFits ey d) : (Civil.fourLoop ey d yi).ok := by
  fun_induction Civil.fourLoop ey d yi with
  | case1 ey d yi n h => exact Ck.pure_ok _
  | case2 ey d yi n h ih =>
    have hn : 1460 ≤ n := Civil.daysPer4Years_pos yi
    obtain ⟨a, b, c⟩ := hf.strip (k := 4) (Int.not_le.mp h) (by omega)
    simp only [Ck.bind'_ok, chk64_ok, chk64_val]
    exact ⟨a, b, ih _ c⟩

theorem LoopFits.lix {ey d : Int} (h : LoopFits ey d) (m : Int) : inI64 (ey + lix(m)) := by
  have := lix_range m
  simp only [LoopFits, inI64, i64min, i64max] at *; omega

theorem yearLoop_ok (m ey d : Int) (hf : LoopFits ey d) : (Civil.yearLoop m ey d).ok := by
  fun_induction Civil.yearLoop m ey d with
  | case1 ey d h =>
    simp only [Ck.bind'_ok, daysPerYear_ok, Ck.pure_ok, and_true]; exact hf.lix m
  | case2 ey d h ih =>
    have hn := Civil.daysPerYear_pos ey m
    obtain ⟨a, b, c⟩ := hf.strip (k := 1) (Int.not_le.mp h) (by omega)
    simp only [Ck.bind'_ok, chk64_ok, chk64_val, daysPerYear_ok]
    exact ⟨hf.lix m, a, b, ih _ c⟩

theorem monthLoop_ok (ey m d : Int) (h1 : 1 ≤ m) (h2 : m ≤ 12) (hf : LoopFits ey d) :
    (Civil.monthLoop ey m d).ok := by
  fun_induction Civil.monthLoop ey m d with
  | case1 ey m d h =>
    simp only [Ck.bind'_ok, daysPerMonth_ok ey m h1 h2, Ck.pure_ok, and_true]
  | case2 ey m d h hn =>
    rw [daysPerMonth_val ey m h1 h2] at hn
    have := daysInMonth_pos ey m; omega
  | case3 ey m d h hn ih1 ih2 =>
    rw [daysPerMonth_val ey m h1 h2] at h ih1 ih2 ⊢
    have hp := daysInMonth_pos ey m
    simp only [Ck.bind'_ok, daysPerMonth_ok ey m h1 h2, true_and, chk64_ok,
      daysPerMonth_val ey m h1 h2]
    by_cases hm : m + 1 > 12
    · obtain ⟨a, b, c⟩ := hf.strip (k := 1) (Int.not_le.mp h) (by omega)
      simp only [hm, if_true, Ck.bind'_ok, chk64_ok, chk64_val]
      exact ⟨a, b, ih1 _ (by omega) (by omega) c⟩
    · obtain ⟨a, -, c⟩ := hf.strip (k := 0) (Int.not_le.mp h) (by omega)
      simp only [hm, if_false]
      exact ⟨a, ih2 (by omega) (by omega) (by rwa [Int.add_zero] at c)⟩
/-! ## `n_day` cut into phases -/

namespace NDay

/-- bring the carried days `cd % 146097` into `[0, 146097)` -/
def redCd (ey1 cd1 : Int) : Ck (Int × Int) :=
  if cd1 < 0 then do
    let e ← chk64 (ey1 - 400); let c ← chk64 (cd1 + 146097); pure (e, c)
  else pure (ey1, cd1)

/-- bring the day `d % 146097 + cd` into `[1, 146097]` -/
def redD (ey3 d1 m : Int) : Ck (Int × Int) :=
  if d1 > 0 then
    (if d1 > 146097 then do
        let e ← chk64 (ey3 + 400); let c ← chk64 (d1 - 146097); pure (e, c)
      else pure (ey3, d1))
  else
    (if d1 > -365 then do
        let e ← chk64 (ey3 - 1)
        let n ← Civil.daysPerYear e m
        let c ← chk64 (d1 + n)
        pure (e, c)
      else do
        let e ← chk64 (ey3 - 400); let c ← chk64 (d1 + 146097); pure (e, c))

/-- the 100/4/1-year chunk loops -/
def yearChunks (ey4 d2 m : Int) : Ck (Int × Int) :=
  if d2 > 365 then do
    let yi ← Civil.yearIndex ey4 m
    let c ← Civil.centuryLoop ey4 d2 yi
    let f ← Civil.fourLoop c.1 c.2.1 c.2.2
    Civil.yearLoop m f.1 f.2.1
  else pure (ey4, d2)

def monthChunk (ey5 m d3 : Int) : Ck (Int × Int × Int) :=
  if d3 > 28 then Civil.monthLoop ey5 m d3 else pure (ey5, m, d3)

theorem nDay_eq (y m d cd hh mm ss : Int) :
    Civil.nDay y m d cd hh mm ss = (do
      let t ← chk64 (cdiv cd 146097 * 400)
      let ey1 ← chk64 (cmod y 400 + t)
      let p ← redCd ey1 (cmod cd 146097)
      let t2 ← chk64 (cdiv d 146097 * 400)
      let ey3 ← chk64 (p.1 + t2)
      let d1 ← chk64 (cmod d 146097 + p.2)
      let q ← redD ey3 d1 m
      let r ← yearChunks q.1 q.2 m
      let s ← monthChunk r.1 m r.2
      let dy ← chk64 (s.1 - cmod y 400)
      let yy ← chk64 (y + dy)
      pure ⟨yy, s.2.1, s.2.2, hh, mm, ss⟩) := rfl

theorem redCd_val (e cd : Int) :
    (redCd (e + cdiv cd 146097 * 400) (cmod cd 146097)).val =
      (e + 400 * (cd / 146097), cd % 146097) := by
  unfold redCd
  split
  · next h =>
    have := floor_of_neg (by decide) h
    simp only [Ck.bindv, chk64_val, Ck.pure_val, Prod.mk.injEq]; omega
  · next h =>
    have := floor_of_nonneg (by decide) h
    simp only [Ck.pure_val, Prod.mk.injEq]; omega

theorem redCd_ok (ey1 cd1 : Int) (h1 : inI64 (ey1 - 400)) (h3 : -146097 ≤ cd1) (h4 : cd1 ≤ 146097) :
    (redCd ey1 cd1).ok := by
  unfold redCd
  simp only [inI64, i64min, i64max] at h1
  split
  · simp only [Ck.bind_ok, chk64_ok, Ck.pure_ok, and_true, inI64, i64min, i64max]; omega
  · exact Ck.pure_ok _

theorem redD_spec (ey3 d1 m : Int) (h1 : -146097 < d1) (h2 : d1 ≤ 2 * 146097) :
    dayNum (redD ey3 d1 m).val.1 m (redD ey3 d1 m).val.2 = dayNum ey3 m d1 ∧
    1 ≤ (redD ey3 d1 m).val.2 ∧ (redD ey3 d1 m).val.2 ≤ 146097 ∧
    ey3 - 400 ≤ (redD ey3 d1 m).val.1 ∧ (redD ey3 d1 m).val.1 ≤ ey3 + 400 := by
  unfold redD
  split
  · split
    · simp only [Ck.bindv, chk64_val, Ck.pure_val]
      have := dayNum_add_400 ey3 m (d1 - 146097)
      have := dayNum_linear ey3 m (d1 - 146097) 146097
      rw [show d1 - 146097 + 146097 = d1 by omega] at this
      refine ⟨?_, ?_, ?_, ?_, ?_⟩ <;> omega
    · refine ⟨rfl, ?_, ?_, ?_, ?_⟩ <;> simp only [Ck.pure_val] <;> omega
  · split
    · simp only [Ck.bindv, chk64_val, Ck.pure_val]
      have h := dayNum_add_year (ey3 - 1) m d1
      rw [show ey3 - 1 + 1 = ey3 by omega] at h
      have := dayNum_linear (ey3 - 1) m d1 (Civil.daysPerYear (ey3 - 1) m).val
      have := Civil.daysPerYear_pos (ey3 - 1) m
      have hc := daysPerYear_val (ey3 - 1) m
      have := daysInYear_cases (ey3 - 1 + lix(m))
      refine ⟨?_, ?_, ?_, ?_, ?_⟩ <;> omega
    · simp only [Ck.bindv, chk64_val, Ck.pure_val]
      have := dayNum_add_400 (ey3 - 400) m (d1 + 146097)
      rw [show ey3 - 400 + 400 = ey3 by omega] at this
      have := dayNum_linear ey3 m d1 146097
      refine ⟨?_, ?_, ?_, ?_, ?_⟩ <;> omega

theorem redD_ok (ey3 d1 m : Int) (h1 : inI64 (ey3 - 400)) (h2 : inI64 (ey3 + 400))
    (h3 : -146097 < d1) (h4 : d1 ≤ 2 * 146097) : (redD ey3 d1 m).ok := by
  unfold redD
  have := lix_range m
  have hc := daysPerYear_val (ey3 - 1) m
  have := daysInYear_cases (ey3 - 1 + lix(m))
  simp only [inI64, i64min, i64max] at h1 h2
  split
  · split
    · simp only [Ck.bind_ok, chk64_ok, Ck.pure_ok, and_true, inI64, i64min, i64max]; omega
    · exact Ck.pure_ok _
  · split
    · simp only [Ck.bind_ok, chk64_ok, chk64_val, Ck.pure_ok, and_true, daysPerYear_ok, inI64,
        i64min, i64max]
      omega
    · simp only [Ck.bind_ok, chk64_ok, Ck.pure_ok, and_true, inI64, i64min, i64max]; omega

theorem yearChunks_spec (ey4 d2 m : Int) :
    DayStep ey4 m d2 (yearChunks ey4 d2 m).val.1 m (yearChunks ey4 d2 m).val.2 := by
  unfold yearChunks
  split
  · simp only [Ck.bindv]
    have hc := centuryLoop_spec m ey4 d2 _ (yearIndex_val ey4 m)
    generalize (Civil.centuryLoop ey4 d2 (Civil.yearIndex ey4 m).val).val = c at hc
    have hf := fourLoop_spec m c.1 c.2.1 c.2.2 hc.2
    exact (hc.1.trans hf).trans (yearLoop_spec ..)
  · exact .refl ..

theorem yearChunks_ok (ey4 d2 m : Int) (hf : LoopFits ey4 d2) : (yearChunks ey4 d2 m).ok := by
  unfold yearChunks
  split
  · have hc := centuryLoop_spec m ey4 d2 _ (yearIndex_val ey4 m)
    have hco := centuryLoop_ok ey4 d2 (Civil.yearIndex ey4 m).val hf
    simp only [Ck.bind_ok, yearIndex_ok]
    generalize (Civil.centuryLoop ey4 d2 (Civil.yearIndex ey4 m).val).val = c at hc ⊢
    have hfc := hf.step hc.1
    exact ⟨hf.lix m, hco, fourLoop_ok _ _ _ hfc,
      yearLoop_ok _ _ _ (hfc.step (fourLoop_spec m c.1 c.2.1 c.2.2 hc.2))⟩
  · exact Ck.pure_ok _

theorem monthChunk_spec (ey5 m d3 : Int) (h1 : 1 ≤ m) (h2 : m ≤ 12) :
    DayStep ey5 m d3 (monthChunk ey5 m d3).val.1 (monthChunk ey5 m d3).val.2.1
        (monthChunk ey5 m d3).val.2.2 ∧
      1 ≤ (monthChunk ey5 m d3).val.2.1 ∧ (monthChunk ey5 m d3).val.2.1 ≤ 12 ∧
      (monthChunk ey5 m d3).val.2.2 ≤
        daysInMonth (monthChunk ey5 m d3).val.1 (monthChunk ey5 m d3).val.2.1 := by
  unfold monthChunk
  split
  · exact monthLoop_spec ey5 m d3 h1 h2
  · have := daysInMonth_pos ey5 m
    exact ⟨.refl .., h1, h2, by simp only [Ck.pure_val]; omega⟩

theorem monthChunk_ok (ey5 m d3 : Int) (hm1 : 1 ≤ m) (hm2 : m ≤ 12) (hf : LoopFits ey5 d3) :
    (monthChunk ey5 m d3).ok := by
  unfold monthChunk
  split
  · exact monthLoop_ok ey5 m d3 hm1 hm2 hf
  · exact Ck.pure_ok _

end NDay

/-! ## what normalisation establishes -/

/-- `r` is a valid date with day number `day`, and carries the given time of day -/
structure NormSpec (r : Fields) (day hh mm ss : Int) : Prop where
  date : ValidDate r.y r.m r.d
  day : dayNum r.y r.m r.d = day
  hh : r.hh = hh
  mm : r.mm = mm
  ss : r.ss = ss

theorem NormSpec.valid {r : Fields} {day hh mm ss : Int} (h : NormSpec r day hh mm ss)
    (h1 : 0 ≤ hh ∧ hh ≤ 23) (h2 : 0 ≤ mm ∧ mm ≤ 59) (h3 : 0 ≤ ss ∧ ss ≤ 59) : Valid r := by
  obtain ⟨⟨a, b, c, e⟩, _, hh', mm', ss'⟩ := h
  refine ⟨a, b, c, e, ?_, ?_, ?_, ?_, ?_, ?_⟩ <;> omega

theorem NormSpec.secNum {r : Fields} {day hh mm ss : Int} (h : NormSpec r day hh mm ss) :
    secNum r = day * 86400 + hh * 3600 + mm * 60 + ss := by
  simp only [Spec.secNum, h.day, h.hh, h.mm, h.ss]

open NDay in
/-- `n_day` for a month in range: the result is a valid date, exactly `cd` days after the
(possibly out-of-range) day `d` of month `m` of year `y`; the time of day is passed through -/
theorem nDay_norm (y m d cd hh mm ss : Int) (h1 : 1 ≤ m) (h2 : m ≤ 12) :
    NormSpec (Civil.nDay y m d cd hh mm ss).val (dayNum y m d + cd) hh mm ss := by
  rw [nDay_eq]
  simp only [Ck.bindv, chk64_val, Ck.pure_val, redCd_val]
  have hy := cdiv_cmod y 400
  have hd := cdiv_cmod d 146097
  have hdr := cmod_range d (k := 146097) (by decide)
  generalize cmod y 400 = e0 at *
  generalize cdiv y 400 = k at *
  generalize hey3 : e0 + 400 * (cd / 146097) + cdiv d 146097 * 400 = ey3
  generalize hd1 : cmod d 146097 + cd % 146097 = d1
  obtain ⟨hq1, hq2, -, -, -⟩ := redD_spec ey3 d1 m (by omega) (by omega)
  generalize (redD ey3 d1 m).val = q at hq1 hq2 ⊢
  have hr := yearChunks_spec q.1 q.2 m
  generalize (yearChunks q.1 q.2 m).val = r at hr ⊢
  obtain ⟨hs, hm1, hm2, htop⟩ := monthChunk_spec r.1 m r.2 h1 h2
  generalize (monthChunk r.1 m r.2).val = s at hs hm1 hm2 htop ⊢
  rw [show y + (s.1 - e0) = s.1 + 400 * k by omega]
  refine ⟨⟨hm1, hm2, hs.pos (hr.pos (by omega)), ?_⟩, ?_, rfl, rfl, rfl⟩
  · dsimp only; rw [daysInMonth_add_400_mul]; exact htop
  · dsimp only
    rw [dayNum_add_400_mul, hs.day, hr.day, hq1, ← hey3,
      show e0 + 400 * (cd / 146097) + cdiv d 146097 * 400 =
        e0 + 400 * (cd / 146097 + cdiv d 146097) by omega,
      show y = e0 + 400 * k by omega, dayNum_add_400_mul, dayNum_add_400_mul,
      dayNum_eq_first e0 m d1, dayNum_eq_first e0 m d]
    omega

open NDay in
theorem nDay_ok (y m d cd hh mm ss : Int) (h1 : 1 ≤ m) (h2 : m ≤ 12) (hd : inI64 d)
    (hcd : inI64 cd) (hres : inI64 (Civil.nDay y m d cd hh mm ss).val.y) :
    (Civil.nDay y m d cd hh mm ss).ok := by
  rw [nDay_eq] at hres ⊢
  simp only [Ck.bindv, chk64_val, Ck.pure_val, redCd_val] at hres
  simp only [Ck.bind_ok, chk64_ok, Ck.pure_ok, chk64_val, redCd_val, and_true]
  have hyr := cmod_range y (k := 400) (by decide)
  have hdr := cmod_range d (k := 146097) (by decide)
  have hcr := cmod_range cd (k := 146097) (by decide)
  have hdq := cdiv_cmod d 146097
  have hcq := cdiv_cmod cd 146097
  simp only [inI64, i64min, i64max] at hd hcd
  generalize cmod y 400 = e0 at *
  generalize cdiv d 146097 = dq at *
  generalize cdiv cd 146097 = cq at *
  have hro := redCd_ok (e0 + cq * 400) (cmod cd 146097)
    (inI64_of_bounds (by omega)) (by omega) (by omega)
  generalize hey3 : e0 + 400 * (cd / 146097) + dq * 400 = ey3 at *
  generalize hd1 : cmod d 146097 + cd % 146097 = d1 at *
  have hey3b : -60000000000000000 ≤ ey3 ∧ ey3 ≤ 60000000000000000 := by omega
  obtain ⟨-, hq2, hq3, hq4, hq5⟩ := redD_spec ey3 d1 m (by omega) (by omega)
  have hqo := redD_ok ey3 d1 m (inI64_of_bounds (by omega)) (inI64_of_bounds (by omega))
    (by omega) (by omega)
  generalize (redD ey3 d1 m).val = q at *
  have hfq : LoopFits q.1 q.2 := by simp only [LoopFits, i64min, i64max]; omega
  have hr := yearChunks_spec q.1 q.2 m
  have hyo := yearChunks_ok q.1 q.2 m hfq
  have hfr := hfq.step hr
  generalize (yearChunks q.1 q.2 m).val = r at *
  have hs := (monthChunk_spec r.1 m r.2 h1 h2).1
  have hmo := monthChunk_ok r.1 m r.2 h1 h2 hfr
  generalize (monthChunk r.1 m r.2).val = s at *
  have hs1 := hs.lo; have hs2 := hs.hi; have hs4 := hs.pos hfr.2.1
  have hr1 := hr.lo; have hr2 := hr.hi
  clear hs hr hfr hfq
  refine ⟨?_, ?_, hro, ?_, ?_, ?_, hqo, hyo, hmo, ?_, hres⟩ <;>
    simp only [inI64, i64min, i64max] <;> omega

/-! ## `n_mon`, `n_hour`, `n_min`, `n_sec`: each hands floor-division carries to the next -/

/-- day number of "day `d` of month `m` of year `y`" with the month carried into the year
(`d` may be out of range: `dayNum` is linear in the day) -/
def monthDay (y m d : Int) : Int := dayNum (y + (m - 1) / 12) ((m - 1) % 12 + 1) d

theorem monthDay_of_range (y m d : Int) (h1 : 1 ≤ m) (h2 : m ≤ 12) : monthDay y m d = dayNum y m d := by
  unfold monthDay
  rw [show (m - 1) / 12 = 0 by omega, show (m - 1) % 12 + 1 = m by omega, Int.add_zero]

theorem monthDay_linear (y m d : Int) : monthDay y m d = monthDay y m 1 + (d - 1) :=
  dayNum_eq_first _ _ _

theorem unnormSec_eq (y m d hh mm ss : Int) :
    unnormSec y m d hh mm ss = monthDay y m d * 86400 + hh * 3600 + mm * 60 + ss := by
  rw [monthDay_linear]; rfl

theorem nDay_val_congr {y m y' m' d cd hh mm ss : Int} (h1 : y = y') (h2 : m = m') :
    (Civil.nDay y m d cd hh mm ss).val = (Civil.nDay y' m' d cd hh mm ss).val := by
  subst h1 h2; rfl

theorem nMon_val (y m d cd hh mm ss : Int) :
    (Civil.nMon y m d cd hh mm ss).val =
      (Civil.nDay (y + (m - 1) / 12) ((m - 1) % 12 + 1) d cd hh mm ss).val := by
  unfold Civil.nMon
  have hq := cdiv_cmod m 12
  have hr := cmod_range m (k := 12) (by decide)
  by_cases hm : m = 12
  · subst hm; simp
  · simp only [bne_iff_ne, ne_eq, hm, not_false_eq_true, if_true, Ck.bindv, chk64_val]
    split
    · simp only [Ck.bindv, chk64_val]
      exact nDay_val_congr (by omega) (by omega)
    · exact nDay_val_congr (by omega) (by omega)

theorem nMon_norm (y m d cd hh mm ss : Int) :
    NormSpec (Civil.nMon y m d cd hh mm ss).val (monthDay y m d + cd) hh mm ss := by
  rw [nMon_val]
  exact nDay_norm _ _ _ _ _ _ _ (by omega) (by omega)

theorem NormSpec.congr {r : Fields} {day hh mm ss day' hh' mm' : Int} (h : NormSpec r day hh mm ss)
    (h1 : day = day') (h2 : hh = hh') (h3 : mm = mm') : NormSpec r day' hh' mm' ss := by
  subst h1 h2 h3; exact h

theorem nHour_norm (y m d cd hh mm ss : Int) :
    NormSpec (Civil.nHour y m d cd hh mm ss).val (monthDay y m d + (cd + hh / 24)) (hh % 24) mm ss := by
  unfold Civil.nHour
  simp only [Ck.bindv, chk64_val]
  split
  · next h =>
    have := floor_of_neg (by decide) h
    simp only [Ck.bindv, chk64_val]
    exact (nMon_norm ..).congr (by omega) (by omega) rfl
  · next h =>
    have := floor_of_nonneg (by decide) h
    exact (nMon_norm ..).congr (by omega) (by omega) rfl

/-- the borrow step shared by `n_sec` and `n_min`: `(q, r)` with `-60 < r < 60` becomes floor form -/
def borrow60 (q r : Int) : Ck (Int × Int) :=
  if r < 0 then do
    let c ← chk64 (q - 1); let s ← chk64 (r + 60); pure (c, s)
  else pure (q, r)

theorem borrow60_val (c x : Int) :
    (borrow60 (c + cdiv x 60) (cmod x 60)).val = (c + x / 60, x % 60) := by
  unfold borrow60
  split
  · next h =>
    have := floor_of_neg (by decide) h
    simp only [Ck.bindv, chk64_val, Ck.pure_val, Prod.mk.injEq]; omega
  · next h =>
    have := floor_of_nonneg (by decide) h
    simp only [Ck.pure_val, Prod.mk.injEq]; omega

theorem borrow60_ok (q r : Int) (h1 : inI64 (q - 1)) (h3 : -60 < r) (h4 : r < 60) :
    (borrow60 q r).ok := by
  unfold borrow60
  simp only [inI64, i64min, i64max] at h1
  split
  · simp only [Ck.bind_ok, chk64_ok, Ck.pure_ok, and_true, inI64, i64min, i64max]; omega
  · exact Ck.pure_ok _

theorem nMin_eq (y m d hh ch mm ss : Int) :
    Civil.nMin y m d hh ch mm ss = (do
      let ch1 ← chk64 (ch + cdiv mm 60)
      let p ← borrow60 ch1 (cmod mm 60)
      let a ← chk64 (cdiv hh 24 + cdiv p.1 24)
      let b ← chk64 (cmod hh 24 + cmod p.1 24)
      Civil.nHour y m d a b p.2 ss) := rfl

theorem nMin_norm (y m d hh ch mm ss : Int) :
    NormSpec (Civil.nMin y m d hh ch mm ss).val (monthDay y m d + (hh + ch + mm / 60) / 24)
      ((hh + ch + mm / 60) % 24) (mm % 60) ss := by
  rw [nMin_eq]
  simp only [Ck.bindv, chk64_val, borrow60_val]
  have := cdiv_add_cdiv hh (ch + mm / 60) (k := 24) (by decide)
  exact (nHour_norm ..).congr (by omega) (by omega) rfl

theorem nSec_slow_eq (y m d hh mm ss : Int) (hs : ¬ (0 ≤ ss ∧ ss < 60)) :
    Civil.nSec y m d hh mm ss = (do
      let p ← borrow60 (cdiv ss 60) (cmod ss 60)
      let a ← chk64 (cdiv mm 60 + cdiv p.1 60)
      let b ← chk64 (cmod mm 60 + cmod p.1 60)
      Civil.nMin y m d hh a b p.2) := by
  unfold Civil.nSec
  rw [if_neg hs]
  rfl

/-- `n_sec`: the shortcuts for fields already in range agree with the full carry chain -/
theorem nSec_norm (y m d hh mm ss : Int) :
    NormSpec (Civil.nSec y m d hh mm ss).val (monthDay y m d + (hh + (mm + ss / 60) / 60) / 24)
      ((hh + (mm + ss / 60) / 60) % 24) ((mm + ss / 60) % 60) (ss % 60) := by
  by_cases hs : 0 ≤ ss ∧ ss < 60
  · unfold Civil.nSec
    rw [if_pos hs, show ss / 60 = 0 by omega, show ss % 60 = ss by omega, Int.add_zero]
    split
    · next hm =>
      rw [show mm / 60 = 0 by omega, show mm % 60 = mm by omega, Int.add_zero]
      split
      · next hh' =>
        rw [show hh / 24 = 0 by omega, show hh % 24 = hh by omega, Int.add_zero]
        split
        · next hd =>
          have := daysInMonth_pos y m
          exact ⟨⟨hd.2.2.1, hd.2.2.2, hd.1, by show d ≤ daysInMonth y m; omega⟩,
            (monthDay_of_range y m d hd.2.2.1 hd.2.2.2).symm, rfl, rfl, rfl⟩
        · exact (nMon_norm ..).congr (Int.add_zero _) rfl rfl
      · have := cdiv_add_ediv hh (k := 24) (by decide)
        exact (nHour_norm ..).congr (by omega) (by omega) rfl
    · have := cdiv_add_ediv mm (k := 60) (by decide)
      exact (nMin_norm ..).congr (by omega) (by omega) (by omega)
  · rw [nSec_slow_eq _ _ _ _ _ _ hs]
    have hb := borrow60_val 0 ss
    simp only [Int.zero_add] at hb
    simp only [Ck.bindv, chk64_val, hb]
    have := cdiv_add_cdiv mm (ss / 60) (k := 60) (by decide)
    exact (nMin_norm ..).congr (by omega) (by omega) (by omega)

/-! ## no flag is raised

Each level asks that its 64-bit inputs leave room for the carries it adds, and that the years
formed on the way and the resulting year are representable. -/

theorem nMon_ok (y m d cd hh mm ss : Int) (hd : inI64 d) (hcd : inI64 cd)
    (hy1 : m ≠ 12 → inI64 (y + Int.tdiv m 12)) (hy2 : inI64 (y + (m - 1) / 12))
    (hres : inI64 (Civil.nMon y m d cd hh mm ss).val.y) :
    (Civil.nMon y m d cd hh mm ss).ok := by
  unfold Civil.nMon at hres ⊢
  by_cases hm : m = 12
  · subst hm
    exact nDay_ok y 12 d cd hh mm ss (by omega) (by omega) hd hcd hres
  · have hy1 : inI64 (y + cdiv m 12) := hy1 hm
    have hq := cdiv_cmod m 12
    have hr := cmod_range m (k := 12) (by decide)
    simp only [bne_iff_ne, ne_eq, hm, not_false_eq_true, if_true, Ck.bindv, chk64_val] at hres
    simp only [bne_iff_ne, ne_eq, hm, not_false_eq_true, if_true, Ck.bind_ok, chk64_ok, chk64_val]
    refine ⟨hy1, ?_⟩
    by_cases h : cmod m 12 ≤ 0
    · simp only [h, if_true, Ck.bindv, chk64_val] at hres
      simp only [h, if_true, Ck.bind_ok, chk64_ok, chk64_val]
      have hy2 : inI64 (y + cdiv m 12 - 1) := by
        rwa [show y + cdiv m 12 - 1 = y + (m - 1) / 12 by omega]
      exact ⟨hy2, inI64_of_bounds (by omega),
        nDay_ok _ _ d cd hh mm ss (by omega) (by omega) hd hcd hres⟩
    · simp only [h, if_false] at hres ⊢
      exact nDay_ok _ _ d cd hh mm ss (by omega) (by omega) hd hcd hres

theorem nHour_ok (y m d cd hh mm ss : Int) (hd : inI64 d)
    (hcd : -4611686018427387904 ≤ cd ∧ cd ≤ 4611686018427387904) (hhh : inI64 hh)
    (hy1 : m ≠ 12 → inI64 (y + Int.tdiv m 12)) (hy2 : inI64 (y + (m - 1) / 12))
    (hres : inI64 (Civil.nHour y m d cd hh mm ss).val.y) :
    (Civil.nHour y m d cd hh mm ss).ok := by
  unfold Civil.nHour at hres ⊢
  have hq := cdiv_cmod hh 24
  have hr := cmod_range hh (k := 24) (by decide)
  simp only [inI64, i64min, i64max] at hhh
  simp only [Ck.bindv, chk64_val] at hres
  simp only [Ck.bind_ok, chk64_ok, chk64_val]
  refine ⟨inI64_of_bounds (by omega), ?_⟩
  by_cases h : cmod hh 24 < 0
  · simp only [h, if_true, Ck.bindv, chk64_val] at hres
    simp only [h, if_true, Ck.bind_ok, chk64_ok, chk64_val]
    refine ⟨inI64_of_bounds (by omega), inI64_of_bounds (by omega),
      nMon_ok y m d _ _ mm ss hd (inI64_of_bounds (by omega)) hy1 hy2 hres⟩
  · simp only [h, if_false] at hres ⊢
    exact nMon_ok y m d _ _ mm ss hd (inI64_of_bounds (by omega)) hy1 hy2 hres

theorem nMin_ok (y m d hh ch mm ss : Int) (hd : inI64 d) (hhh : inI64 hh)
    (hch : -2305843009213693952 ≤ ch ∧ ch ≤ 2305843009213693952) (hmm : inI64 mm)
    (hy1 : m ≠ 12 → inI64 (y + Int.tdiv m 12)) (hy2 : inI64 (y + (m - 1) / 12))
    (hres : inI64 (Civil.nMin y m d hh ch mm ss).val.y) :
    (Civil.nMin y m d hh ch mm ss).ok := by
  rw [nMin_eq] at hres ⊢
  simp only [Ck.bindv, chk64_val, borrow60_val] at hres
  simp only [Ck.bind_ok, chk64_ok, chk64_val, borrow60_val]
  simp only [inI64, i64min, i64max] at hhh hmm
  have h1 := cdiv_cmod mm 60
  have h2 := cmod_range mm (k := 60) (by decide)
  have h3 := cdiv_cmod hh 24
  have h4 := cmod_range hh (k := 24) (by decide)
  have h5 := cdiv_cmod (ch + mm / 60) 24
  have h6 := cmod_range (ch + mm / 60) (k := 24) (by decide)
  refine ⟨inI64_of_bounds (by omega),
    borrow60_ok _ _ (inI64_of_bounds (by omega)) (by omega) (by omega),
    inI64_of_bounds (by omega), inI64_of_bounds (by omega),
    nHour_ok y m d _ _ _ ss hd (by omega) (inI64_of_bounds (by omega)) hy1 hy2 hres⟩

theorem nSec_ok (y m d hh mm ss : Int) (hd : inI64 d) (hhh : inI64 hh)
    (hmm : inI64 mm) (hss : inI64 ss)
    (hy1 : m ≠ 12 → inI64 (y + Int.tdiv m 12)) (hy2 : inI64 (y + (m - 1) / 12))
    (hres : inI64 (Civil.nSec y m d hh mm ss).val.y) :
    (Civil.nSec y m d hh mm ss).ok := by
  by_cases hs : 0 ≤ ss ∧ ss < 60
  · unfold Civil.nSec at hres ⊢
    rw [if_pos hs] at hres ⊢
    split at hres
    · rw [if_pos ‹_›]
      split at hres
      · rw [if_pos ‹_›]
        split at hres
        · rw [if_pos ‹_›]; exact Ck.pure_ok _
        · rw [if_neg ‹_›]
          exact nMon_ok y m d 0 hh mm ss hd (by decide) hy1 hy2 hres
      · rw [if_neg ‹_›]
        simp only [inI64, i64min, i64max] at hhh
        have h3 := cdiv_cmod hh 24
        have h4 := cmod_range hh (k := 24) (by decide)
        exact nHour_ok y m d _ _ mm ss hd (by omega)
          (inI64_of_bounds (by omega)) hy1 hy2 hres
    · rw [if_neg ‹_›]
      simp only [inI64, i64min, i64max] at hmm
      have h3 := cdiv_cmod mm 60
      have h4 := cmod_range mm (k := 60) (by decide)
      exact nMin_ok y m d hh _ _ ss hd hhh (by omega)
        (inI64_of_bounds (by omega)) hy1 hy2 hres
  · rw [nSec_slow_eq _ _ _ _ _ _ hs] at hres ⊢
    have hb := borrow60_val 0 ss
    simp only [Int.zero_add] at hb
    simp only [Ck.bindv, chk64_val, hb] at hres
    simp only [Ck.bind_ok, chk64_ok, chk64_val, hb]
    simp only [inI64, i64min, i64max] at hmm hss
    have h1 := cdiv_cmod ss 60
    have h2 := cmod_range ss (k := 60) (by decide)
    have h3 := cdiv_cmod mm 60
    have h4 := cmod_range mm (k := 60) (by decide)
    have h5 := cdiv_cmod (ss / 60) 60
    have h6 := cmod_range (ss / 60) (k := 60) (by decide)
    refine ⟨borrow60_ok _ _ (inI64_of_bounds (by omega)) (by omega) (by omega), inI64_of_bounds (by omega),
      inI64_of_bounds (by omega),
      nMin_ok y m d hh _ _ _ hd hhh (by omega) (inI64_of_bounds (by omega))
        hy1 hy2 hres⟩

/-! ## alignment and the unit count -/

theorem align_valid (t : Tag) (f : Fields) (h : Valid f) : Valid (Civil.align t f) := by
  obtain ⟨h1, h2, h3, h4, h5, h6, h7, h8, h9, h10⟩ := h
  have p1 := daysInMonth_pos f.y f.m
  have p2 := daysInMonth_pos f.y 1
  cases t <;> simp only [Civil.align, Valid] <;> omega

theorem align_aligned (t : Tag) (f : Fields) : Aligned t (Civil.align t f) := by
  cases t <;> simp [Civil.align, Aligned]

theorem align_sameAbove (t : Tag) (f : Fields) : SameAbove t (Civil.align t f) f := by
  cases t <;> simp [Civil.align, SameAbove]

theorem align_align (t u : Tag) (f : Fields) :
    SameAbove t (Civil.align u (Civil.align t f)) (Civil.align u f) := by
  cases t <;> cases u <;> simp [Civil.align, SameAbove]

theorem unitNum_align (t : Tag) (f : Fields) : unitNum t (Civil.align t f) = unitNum t f := by
  cases t <;> simp [Civil.align, unitNum, secNum]

theorem align_of_aligned (t : Tag) (f : Fields) (h : Aligned t f) : Civil.align t f = f := by
  cases f
  cases t <;> simp_all [Civil.align, Aligned]

theorem secNum_lt_of_unitNum_lt (t : Tag) {a b : Fields} (va : Valid a) (vb : Valid b)
    (h : unitNum t a < unitNum t b) : secNum a < secNum b := by
  obtain ⟨a1, a2, _, _, a5, a6, a7, a8, a9, a10⟩ := id va
  obtain ⟨b1, b2, _, _, b5, b6, b7, b8, b9, b10⟩ := id vb
  cases t <;> simp only [unitNum] at h
  · exact h
  · simp only [secNum]; omega
  · simp only [secNum]; omega
  · simp only [secNum]; omega
  · exact secNum_lt_of_lex va vb (Or.inl (by unfold DateLex; omega))
  · exact secNum_lt_of_lex va vb (Or.inl (Or.inl h))

theorem unitNum_inj (t : Tag) {a b : Fields} (va : Valid a) (vb : Valid b)
    (ha : Aligned t a) (hb : Aligned t b) (h : unitNum t a = unitNum t b) : a = b := by
  refine secNum_inj va vb ?_
  cases t <;> simp only [Aligned] at ha hb <;> simp only [unitNum] at h
  · exact h
  · simp only [secNum, ha, hb]; omega
  · simp only [secNum, ha.1, ha.2, hb.1, hb.2]; omega
  · simp only [secNum, ha.1, ha.2.1, ha.2.2, hb.1, hb.2.1, hb.2.2, h]
  · have := va.1; have := va.2.1; have := vb.1; have := vb.2.1
    simp only [secNum, ha.1, ha.2.1, ha.2.2.1, ha.2.2.2, hb.1, hb.2.1, hb.2.2.1, hb.2.2.2,
      show a.y = b.y by omega, show a.m = b.m by omega]
  · simp only [secNum, ha.1, ha.2.1, ha.2.2.1, ha.2.2.2.1, ha.2.2.2.2, hb.1, hb.2.1, hb.2.2.1,
      hb.2.2.2.1, hb.2.2.2.2, h]

theorem unitNum_lt_iff (t : Tag) {a b : Fields} (va : Valid a) (vb : Valid b)
    (ha : Aligned t a) (hb : Aligned t b) : unitNum t a < unitNum t b ↔ secNum a < secNum b :=
  ((lt_iff_of_trichotomy (Int.lt_trichotomy _ _) (secNum_lt_of_unitNum_lt t va vb)
    (fun e => congrArg secNum (unitNum_inj t va vb ha hb e))
    (secNum_lt_of_unitNum_lt t vb va)).1).symm

theorem unitNum_lt_iff_lex (t : Tag) {a b : Fields} (va : Valid a) (vb : Valid b)
    (ha : Aligned t a) (hb : Aligned t b) : unitNum t a < unitNum t b ↔ FieldsLex a b :=
  (unitNum_lt_iff t va vb ha hb).trans (secNum_lt_iff_lex va vb)

theorem align_le (t : Tag) (f : Fields) (h : Valid f) : secNum (Civil.align t f) ≤ secNum f := by
  have hf : ¬ FieldsLex f (Civil.align t f) := by
    obtain ⟨h1, h2, h3, h4, h5, h6, h7, h8, h9, h10⟩ := h
    cases t <;> simp only [Civil.align, FieldsLex, DateLex] <;> omega
  rw [← secNum_lt_iff_lex h (align_valid t f h)] at hf
  omega

/-- `align t f` is the greatest aligned value not after `f`: an aligned `g` after it has a greater
unit count than `f` -/
theorem align_greatest (t : Tag) (f g : Fields) (hf : Valid f) (hg : Valid g) (ha : Aligned t g)
    (hle : secNum g ≤ secNum f) : secNum g ≤ secNum (Civil.align t f) := by
  refine Int.not_lt.mp fun hlt => ?_
  rw [← unitNum_lt_iff t (align_valid t f hf) hg (align_aligned t f) ha, unitNum_align] at hlt
  have := secNum_lt_of_unitNum_lt t hf hg hlt
  omega

end Cctz
