/-
  C01Decode helper proofs: the specification's big-endian integers are the model's
  `decode32/64`; cutting a byte string into equal chunks; the model's `decodeTimes`/`decodeTypes`
  read as maps over chunks; `strictlyIncreasing` is `Pairwise (<)`.
-/
import Cctz.Spec.TzifSem
import Cctz.Proofs.LtLogic

namespace Cctz.Dc
open Cctz Cctz.Tz Cctz.Spec

/-! ### big-endian integers -/

theorem foldl_beNat (bs : Bytes) : ∀ acc : Nat,
    bs.foldl (fun acc b => acc * 256 + b.toNat) acc = acc * 256 ^ bs.length + beNat bs := by
  induction bs with
  | nil => intro acc; simp [beNat]
  | cons b rest ih =>
    intro acc
    rw [List.foldl_cons, ih, List.length_cons, beNat, Nat.pow_succ]
    generalize 256 ^ rest.length = p
    rw [Nat.add_mul, Nat.mul_assoc, Nat.mul_comm 256 p, Nat.add_assoc]

theorem beNat_eq (bs : Bytes) : beNat bs = decodeBE bs := by
  unfold decodeBE
  rw [foldl_beNat, Nat.zero_mul, Nat.zero_add]

theorem be32_eq (b : Bytes) : be32 b = decode32 b := by
  unfold be32 decode32 twos
  rw [beNat_eq]
  dsimp only
  have e1 : (2 : Nat) ^ (32 - 1) = 2147483648 := by decide
  have e2 : (2 : Int) ^ 32 = 4294967296 := by decide
  rw [e1, e2]
  split <;> split <;> omega

theorem be64_eq (b : Bytes) : be64 b = decode64 b := by
  unfold be64 decode64 twos
  rw [beNat_eq]
  dsimp only
  have e1 : (2 : Nat) ^ (64 - 1) = 9223372036854775808 := by decide
  have e2 : (2 : Int) ^ 64 = 18446744073709551616 := by decide
  rw [e1, e2]
  split <;> split <;> omega

theorem be32_range (b : Bytes) : -2147483648 ≤ be32 b ∧ be32 b ≤ 2147483647 := by
  rw [be32_eq]; exact Lt.decode32_range b

theorem be64_range (b : Bytes) : -9223372036854775808 ≤ be64 b ∧ be64 b ≤ 9223372036854775807 := by
  rw [be64_eq]; exact Lt.decode64_range b

/-- the value of four given bytes, written out -/
theorem be32_four (a b c d : UInt8) (rest : Bytes) :
    be32 (a :: b :: c :: d :: rest) =
      (a.toNat * 16777216 + b.toNat * 65536 + c.toNat * 256 + d.toNat : Nat) -
        (if a.toNat < 128 then 0 else 4294967296 : Int) := by
  have ha := UInt8.toNat_lt a
  have hb := UInt8.toNat_lt b
  have hc := UInt8.toNat_lt c
  have hd := UInt8.toNat_lt d
  unfold be32 twos
  simp only [List.take_succ_cons, List.take_zero, beNat, List.length_cons, List.length_nil]
  have e1 : (2 : Nat) ^ (32 - 1) = 2147483648 := by decide
  have e2 : (2 : Int) ^ 32 = 4294967296 := by decide
  rw [e1, e2]
  split <;> split <;> omega

/-- decoding only looks at the first four / eight bytes -/
theorem be32_append (r rest : Bytes) (h : 4 ≤ r.length) : be32 (r ++ rest) = be32 r := by
  unfold be32
  rw [List.take_append_of_le_length h]

theorem be64_append (r rest : Bytes) (h : 8 ≤ r.length) : be64 (r ++ rest) = be64 r := by
  unfold be64
  rw [List.take_append_of_le_length h]

/-! ### cutting a byte string into `k` chunks of `n` bytes -/

def chunks (n : Nat) (b : Bytes) : Nat → List Bytes
  | 0 => []
  | k + 1 => b.take n :: chunks n (b.drop n) k

theorem chunks_length (n : Nat) (b : Bytes) (k : Nat) : (chunks n b k).length = k := by
  induction k generalizing b with
  | zero => rfl
  | succ k ih => simp [chunks, ih]

theorem chunks_each (n : Nat) (b : Bytes) (k : Nat) (h : n * k ≤ b.length) :
    ∀ c ∈ chunks n b k, c.length = n := by
  induction k generalizing b with
  | zero => intro c hc; cases hc
  | succ k ih =>
    intro c hc
    rw [Nat.mul_succ] at h
    rw [chunks, List.mem_cons] at hc
    rcases hc with rfl | hc
    · rw [List.length_take]; omega
    · exact ih _ (by rw [List.length_drop]; omega) c hc

theorem chunks_flatten (n : Nat) (b : Bytes) (k : Nat) :
    (chunks n b k).flatten = b.take (n * k) := by
  induction k generalizing b with
  | zero => simp [chunks]
  | succ k ih =>
    rw [chunks, List.flatten_cons, ih, Nat.mul_succ, Nat.add_comm, List.take_add]

theorem flatten_length (n : Nat) (ts : List Bytes) (h : ∀ t ∈ ts, t.length = n) :
    ts.flatten.length = n * ts.length := by
  induction ts with
  | nil => simp
  | cons t rest ih =>
    rw [List.flatten_cons, List.length_append, h t List.mem_cons_self,
      ih fun x hx => h x (List.mem_cons_of_mem _ hx), List.length_cons, Nat.mul_succ, Nat.add_comm]

/-! ### the model's decoders as maps over chunks -/

theorem decodeTimes_flatten (n : Nat) (hn : n = 4 ∨ n = 8) (ts : List Bytes)
    (h : ∀ t ∈ ts, t.length = n) (rest : Bytes) :
    decodeTimes (ts.flatten ++ rest) n ts.length = ts.map (if n = 4 then be32 else be64) := by
  induction ts with
  | nil => rfl
  | cons t tl ih =>
    have ht := h t List.mem_cons_self
    rw [List.length_cons, decodeTimes, List.flatten_cons, List.append_assoc, List.drop_left' ht,
      ih fun x hx => h x (List.mem_cons_of_mem _ hx), List.map_cons]
    congr 1
    rcases hn with rfl | rfl
    · rw [if_pos rfl, if_pos rfl, ← be32_eq, be32_append _ _ (by omega)]
    · rw [if_neg (by decide), if_neg (by decide), ← be64_eq, be64_append _ _ (by omega)]

theorem headD_drop (l : Bytes) (n : Nat) : (l.drop n).headD 0 = l.getD n 0 := by
  simp [List.getD_eq_getElem?_getD, List.headD_eq_head?_getD, List.head?_drop]

theorem getD_append_left (r rest : Bytes) (n : Nat) (h : n < r.length) :
    (r ++ rest).getD n 0 = r.getD n 0 := by
  simp [List.getD_eq_getElem?_getD, List.getElem?_append_left h]

/-- the type record the model decodes from six bytes -/
def mkTT (r : Bytes) : TransitionType :=
  { utcOffset := be32 r, isDst := r.getD 4 0 != 0, abbrIndex := (r.getD 5 0).toNat }

/-- the checks `Load` makes on a type record -/
def TypeOk (charcnt : Nat) (r : Bytes) : Prop :=
  -86400 < be32 r ∧ be32 r < 86400 ∧ (r.getD 5 0).toNat < charcnt

theorem decodeTypes_step (r rest : Bytes) (hr : r.length = 6) (c n : Nat) :
    decodeTypes (r ++ rest) c (n + 1) =
      if be32 r ≥ 86400 ∨ be32 r ≤ -86400 then none
      else if (r.getD 5 0).toNat ≥ c then none
      else (decodeTypes rest c n).map fun l => mkTT r :: l := by
  rw [decodeTypes]
  simp only [headD_drop, List.drop_left' hr, getD_append_left r rest 4 (by omega),
    getD_append_left r rest 5 (by omega), ← be32_eq, be32_append r rest (by omega)]
  rfl

theorem decodeTypes_flatten_ok (c : Nat) (tys : List Bytes) (h : ∀ r ∈ tys, r.length = 6)
    (hok : ∀ r ∈ tys, TypeOk c r) (rest : Bytes) :
    decodeTypes (tys.flatten ++ rest) c tys.length = some (tys.map mkTT) := by
  induction tys with
  | nil => rfl
  | cons r tl ih =>
    obtain ⟨o1, o2, o3⟩ := hok r List.mem_cons_self
    rw [List.length_cons, List.flatten_cons, List.append_assoc,
      decodeTypes_step _ _ (h r List.mem_cons_self),
      ih (fun x hx => h x (List.mem_cons_of_mem _ hx)) (fun x hx => hok x (List.mem_cons_of_mem _ hx)),
      if_neg (by omega), if_neg (by omega)]
    rfl

theorem decodeTypes_flatten_some (c : Nat) (tys : List Bytes) (h : ∀ r ∈ tys, r.length = 6)
    (rest : Bytes) (l : List TransitionType)
    (hl : decodeTypes (tys.flatten ++ rest) c tys.length = some l) : ∀ r ∈ tys, TypeOk c r := by
  induction tys generalizing l with
  | nil => intro r hr; cases hr
  | cons r tl ih =>
    rw [List.length_cons, List.flatten_cons, List.append_assoc,
      decodeTypes_step _ _ (h r List.mem_cons_self)] at hl
    split at hl
    · cases hl
    split at hl
    · cases hl
    cases hrec : decodeTypes (tl.flatten ++ rest) c tl.length with
    | none => rw [hrec] at hl; cases hl
    | some l' =>
      intro x hx
      rw [List.mem_cons] at hx
      rcases hx with rfl | hx
      · exact ⟨by omega, by omega, by omega⟩
      · exact ih (fun x hx => h x (List.mem_cons_of_mem _ hx)) l' hrec x hx

/-! ### order of the times -/

theorem pairwise_strictlyIncreasing (l : List Int) (h : l.Pairwise (· < ·)) :
    strictlyIncreasing l = true := by
  induction l with
  | nil => rfl
  | cons a rest ih =>
    cases rest with
    | nil => rfl
    | cons b rest =>
      rw [List.pairwise_cons] at h
      unfold strictlyIncreasing
      rw [Bool.and_eq_true, decide_eq_true_eq]
      exact ⟨h.1 b List.mem_cons_self, ih h.2⟩

end Cctz.Dc
