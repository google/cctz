/-
  Helper lemmas for C18 (split_seconds / join_seconds).
-/
import Cctz.Model.Split
import Cctz.Proofs.IntLemmas

namespace Cctz.Split
open Cctz

theorem cdiv_var (a D : Int) (hD : 0 < D) :
    (cdiv a D = a / D ∧ (0 ≤ a ∨ a % D = 0)) ∨ (cdiv a D = a / D + 1 ∧ a < 0 ∧ a % D ≠ 0) := by
  have hs := cmod_sign a D
  by_cases h : cmod a D < 0
  · have := floor_of_neg hD h; have := cmod_range a hD; right; omega
  · have := floor_of_nonneg hD h; left; omega

theorem sub_ediv_mul (a D : Int) : a - a / D * D = a % D := by
  have := Int.emod_def a D; rw [Int.mul_comm] at this; omega

theorem sub_ediv_mul' (a D : Int) : a - (a / D + 1) * D = a % D - D := by
  have := Int.emod_def a D; rw [Int.mul_comm] at this; rw [Int.add_mul]; omega

theorem splitSeconds_N1_val (D c : Int) (hD : 0 < D) : (splitSeconds 1 D c).val = (c / D, c % D) := by
  unfold splitSeconds
  simp only [Ck.bind_val, chk64_val, Int.mul_one]
  have hm := Int.emod_nonneg c (by omega : D ≠ 0)
  have hl := Int.emod_lt_of_pos c hD
  rcases cdiv_var c D hD with ⟨h1, _⟩ | ⟨h1, _⟩
  · have hn : ¬ (c % D < 0) := by omega
    simp only [h1, sub_ediv_mul, hn, if_false, Ck.pure_val]; simp [cdiv]
  · have hn : c % D - D < 0 := by omega
    simp only [h1, sub_ediv_mul', hn, if_true, Ck.pure_val, Ck.bind_val, chk64_val]; simp [cdiv]

theorem splitSeconds_D1_val (N c : Int) : (splitSeconds N 1 c).val = (c * N, 0) := by
  unfold splitSeconds
  simp [cdiv]

theorem splitSeconds_N1_ok (D c : Int) (hD : 0 < D) (hc : inI64 c) (hD2 : inI64 D)
    (h4 : inI64 (c / D - 1)) (h5 : inI64 ((c / D + 1) * D)) :
    (splitSeconds 1 D c).ok := by
  unfold splitSeconds
  have hm := Int.emod_nonneg c (by omega : D ≠ 0)
  have hl := Int.emod_lt_of_pos c hD
  have e1 := sub_ediv_mul c D
  have e2 := sub_ediv_mul' c D
  have e3 : (c / D + 1) * D = c / D * D + D := by rw [Int.add_mul]; simp
  unfold inI64 i64min i64max at *
  simp only [Ck.bind_ok, chk64_val, chk64_ok, Int.mul_one]
  rcases cdiv_var c D hD with ⟨h1, h2⟩ | ⟨h1, h2, h3⟩
  · have hn : ¬ (c % D < 0) := by omega
    simp only [h1, e1, hn, if_false, Ck.pure_ok, inI64, i64min, i64max, and_true]
    omega
  · have hn : c % D - D < 0 := by omega
    simp only [h1, e2, hn, if_true, Ck.pure_ok, Ck.bind_ok, chk64_ok, chk64_val, inI64, i64min, i64max, and_true]
    have := Int.ediv_neg_of_neg_of_pos h2 hD
    omega

theorem splitSeconds_D1_ok (N c : Int) (hc : inI64 (c * N)) : (splitSeconds N 1 c).ok := by
  unfold splitSeconds
  unfold inI64 i64min i64max at *
  simp [cdiv, inI64, i64min, i64max]
  omega
theorem joinCoarse_count (Num sec : Int) (h : 1 ≤ Num) :
    (if sec ≥ 0 ∨ cmod sec Num = 0 then cdiv sec Num else cdiv sec Num - 1) = sec / Num := by
  have hz := cmod_eq_zero_iff sec Num (by omega)
  rcases cdiv_var sec Num (by omega) with ⟨h1, h2⟩ | ⟨h1, h2, h3⟩
  · rw [if_pos (by rw [hz]; omega), h1]
  · rw [if_neg (by rw [hz]; omega), h1]; omega

theorem subToFemto_val (D sub : Int) (hD : 0 < D) (hdvd : 1000000000000000 % D = 0) :
    (subToFemto 1 D sub).val = sub * (1000000000000000 / D) := by
  have hd : D ∣ 1000000000000000 := Int.dvd_of_emod_eq_zero hdvd
  have hg : ((Int.gcd 1000000000000000 D : Nat) : Int) = D := by
    rw [Int.gcd_eq_natAbs_right_iff_dvd.mpr hd]; omega
  unfold subToFemto
  simp only [Ck.bind_val, chk64_val, Ck.pure_val, Int.one_mul, hg]
  rw [Int.ediv_self (by omega)]
  simp [cdiv]

/-- a tick that divides the second: femtoseconds per tick -/
theorem tick_facts (D : Int) (hD : 0 < D) (hdvd : 1000000000000000 % D = 0) :
    0 < 1000000000000000 / D ∧ D * (1000000000000000 / D) = 1000000000000000 ∧
      D ≤ 1000000000000000 :=
  have hd : D ∣ 1000000000000000 := Int.dvd_of_emod_eq_zero hdvd
  ⟨Int.ediv_pos_of_pos_of_dvd (by omega) (by omega) hd, Int.mul_ediv_cancel' hd,
    Int.le_of_dvd (by omega) hd⟩

end Cctz.Split
