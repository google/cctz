/-
  C10 (run-time hypothesis check) — the executable checker `TameCheck.tameFullb` that the driver
  evaluates on every zone of a run decides exactly the hypothesis `Qo.Tame'` of the C10 theorems
  (Cctz/Properties/C10Safe.lean).  Hence "the checker answered `true` on this zone" implies, by
  theorem, that no query on that zone raises a flag (no signed overflow, no out-of-range index).
-/
import Cctz.Model.Tz
import Cctz.Model.TameCheck
import Cctz.Spec.TableSem
import Cctz.Spec.TableTame
import Cctz.Proofs.TameCheckSound
import Cctz.Properties.C10Safe
import Cctz.Properties.C12Tables

namespace Cctz.C10Check
open Cctz Cctz.Tz Cctz.Spec

def checker_sound_statement : Prop := ∀ z, TameCheck.tameFullb z = true → Qo.Tame' z

def checker_complete_statement : Prop := ∀ z, Qo.Tame' z → TameCheck.tameFullb z = true

/-- a zone that passed the check is safe for every query on every int64 instant and every valid
civil second with an int64 year -/
def checked_zone_safe_statement : Prop :=
  ∀ z h t cs, TameCheck.tameFullb z = true → inI64 t → Spec.Valid cs → inI64 cs.y →
    (Tz.breakTime z h t).ok ∧ (Tz.makeTime z h cs).ok ∧ (Tz.convert z h cs).ok ∧
    (Tz.nextTransition z t).ok ∧ (Tz.prevTransition z t).ok

/-- and the instants `MakeTime` returns for it are `time_point` values -/
def checked_zone_results_in_range_statement : Prop :=
  ∀ z h cs, TameCheck.tameFullb z = true → Spec.Valid cs → inI64 cs.y →
    inI64 (makeTime z h cs).val.1.pre ∧ inI64 (makeTime z h cs).val.1.trans ∧
    inI64 (makeTime z h cs).val.1.post


theorem checker_sound : checker_sound_statement := fun z h => TameCheck.tameFullb_sound z h

theorem checker_complete : checker_complete_statement := fun z h => TameCheck.tameFullb_complete z h

theorem checked_zone_safe : checked_zone_safe_statement := fun z h t cs hb ht vcs hy =>
  have tm' : Qo.Tame' z := checker_sound z hb
  have tm : Tame z := tm'.toTame
  ⟨C10Safe.breakTime_ok_partial z h t tm' ht,
   C10Safe.makeTime_ok z h cs tm vcs hy,
   C10Safe.convert_ok z h cs tm vcs hy,
   (C10Safe.transitions_ok z t tm ht).1,
   (C10Safe.transitions_ok z t tm ht).2⟩

theorem checked_zone_results_in_range : checked_zone_results_in_range_statement :=
  fun z h cs hb vcs hy => C10Safe.results_in_range z h cs (checker_sound z hb).toTame vcs hy


/-! ## the hypotheses are satisfiable: concrete tables on which the checker answers `true` -/

/-- the built-in fixed-offset table for UTC+1 (12 entries, one type) -/
example : TameCheck.tameFullb (resetToBuiltinUTC 3600).val = true := by decide +kernel

/-- the two-entry rule-extended table `Qo.zBeyond` (exercises the `extb` clause), and the table
`Qo.zBoundary` one second earlier is rejected -/
example : TameCheck.tameFullb Qo.zBeyond = true ∧ TameCheck.tameFullb Qo.zBoundary = false := by
  decide +kernel

/-- the table loaded from the TZif bytes `C12Tables.sampleFile` (sentinel plus two transitions) -/
example : (match (load {} C12Tables.sampleFile).val with
     | .ok z => TameCheck.tameFullb z
     | _ => false) = true := by decide +kernel

/-- `Qo.boundaryFile` with the footer's last time moved one second later
(`AAA0BBB,J60/0,J338/16:30:08`): `load` yields an 804-entry rule-extended table with
`lastYear = some 2196`, first entry -5517331200 and last entry 7161147008, and `tameFullb` answers
`true` on it, while it answers `false` on the table of `Qo.boundaryFile` itself (checked with `#eval`;
`example : (match (load {} beyondFile).val with | .ok z => TameCheck.tameFullb z | _ => false) = true
:= by decide +kernel` is accepted too, with `maxRecDepth 100000`, but takes about 11 minutes, so it is
not part of the build). -/
def beyondFile : Bytes := Qo.boundaryFile.set 154 56

example : beyondFile.length = 156 ∧ beyondFile.drop 150 = [51, 48, 58, 48, 56, 10] := by
  decide +kernel

/-- so `checked_zone_safe` applies, e.g. at `max()` and at the last civil second of the
largest int64 year -/
example : TameCheck.tameFullb (resetToBuiltinUTC 3600).val = true ∧ inI64 i64max ∧
    Valid ⟨i64max, 12, 31, 23, 59, 59⟩ ∧ inI64 (⟨i64max, 12, 31, 23, 59, 59⟩ : Fields).y :=
  ⟨by decide +kernel, by decide, by decide, by decide⟩

end Cctz.C10Check
