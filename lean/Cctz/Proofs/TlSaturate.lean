/-
  `MakeTime` at the two ends of the table (no 400-year shift): saturation at max()/min() and the
  exact answers just inside.
-/
import Cctz.Proofs.TableLookup
import Cctz.Proofs.TcMake

namespace Cctz.Tl
open Cctz Cctz.Tz Cctz.Spec

theorem rd_val_some (v d : Int) : (rd (some v) d).val = v := rfl

theorem lt_false_iff {a b : Fields} (va : Valid a) (vb : Valid b) :
    Civil.lt a b = false ↔ secNum b ≤ secNum a := by
  rw [← Bool.not_eq_true, lt_iff_secNum va vb]; omega

/-! ## the two end paths (no table facts needed beyond non-emptiness) -/

theorem makeTimeCore_head (z : Zone) (h : Nat) (cs : Fields)
    (h1 : Civil.lt cs (trn z 0).civilSec = true) (h3 : Civil.le cs (trn z 0).prevCivilSec = true) :
    (makeTimeCore z h cs).val = (Tc.headAns z cs h).val := by
  rw [Tc.makeTimeCore_eq]
  simp only [Ck.bindv, getTrans_val, Tc.findTr_of_first z h _ h1]
  unfold Tc.answerAt
  rw [if_pos rfl, if_pos h3]

theorem makeTimeCore_tail (z : Zone) (h : Nat) (cs : Fields) (hn : 0 < z.transitions.size)
    (h1 : Civil.lt cs (trn z 0).civilSec = false)
    (h2 : Civil.lt cs (trn z (z.transitions.size - 1)).civilSec = false)
    (h3 : Civil.lt (trn z (z.transitions.size - 1)).prevCivilSec cs = true) :
    (makeTimeCore z h cs).val = (Tc.tailAns z cs (trn z (z.transitions.size - 1)) h).val := by
  rw [Tc.makeTimeCore_eq]
  simp only [Ck.bindv, getTrans_val, Tc.findTr_of_last z h h1 h2]
  unfold Tc.answerAt
  rw [if_neg (Nat.ne_of_gt hn), if_pos rfl, if_pos h3]

/-! ## the same with the table's meaning -/

theorem first_le_last (z : Zone) (wf : TableWF z) (cc : CivilCols z) (cso : CivilSorted z) :
    secNum (trn z 0).civilSec ≤ secNum (trn z (z.transitions.size - 1)).civilSec := by
  have hn := wf.nonempty
  by_cases e : z.transitions.size - 1 = 0
  · rw [e]; omega
  · have := cso 0 (z.transitions.size - 1) (by omega) (by omega)
    rw [lt_iff_secNum (cc.civ 0 hn).1 (cc.civ _ (by omega)).1] at this
    omega

theorem makeTime_tail (z : Zone) (h : Nat) (cs : Fields) (wf : TableWF z) (cc : CivilCols z)
    (cso : CivilSorted z) (v : Valid cs) (hns : NoShift z cs)
    (h2 : secNum (trn z (z.transitions.size - 1)).civilSec ≤ secNum cs)
    (h3 : Civil.lt (trn z (z.transitions.size - 1)).prevCivilSec cs = true) :
    (makeTime z h cs).val = (mkUnique (Tc.uval z z.transitions.size (secNum cs)), h) := by
  have hn := wf.nonempty
  have hfl := first_le_last z wf cc cso
  apply Tc.makeTime_of_core
  rw [makeTimeCore_tail z h cs hn ((lt_false_iff v (cc.civ 0 hn).1).2 (by omega))
    ((lt_false_iff v (cc.civ _ (by omega)).1).2 h2) h3, Tc.tailAns_val wf cc v hns]

/-- offsets below a day (what Load enforces) -/
def OffsetsSmall (z : Zone) : Prop :=
  ∀ k, k < z.types.size → -86400 < (typ z k).utcOffset ∧ (typ z k).utcOffset < 86400

theorem head_conds (z : Zone) (wf : TableWF z) (cc : CivilCols z) (os : OffsetsSmall z) {cs : Fields}
    (v : Valid cs) (hx : secNum cs - offBefore z 0 + 172800 ≤ timeOf z 0) :
    Civil.lt cs (trn z 0).civilSec = true ∧ Civil.le cs (trn z 0).prevCivilSec = true := by
  have hn := wf.nonempty
  obtain ⟨vc, sc⟩ := cc.civ 0 hn
  obtain ⟨vp, sp⟩ := cc.prev 0 hn
  have o1 := os _ (wf.typeIdx 0 hn)
  have o2 := os _ (prevType_lt z wf 0)
  constructor
  · rw [lt_iff_secNum v vc, sc]; unfold offOf; unfold offBefore at hx; omega
  · rw [le_iff_secNum v vp, sp]; omega

/-! ## round trips at max() and min() -/

theorem max_roundtrip (z : Zone) (h h' : Nat) (wf : TableWF z) (cc : CivilCols z)
    (cso : CivilSorted z) (os : OffsetsSmall z) (hext : z.extended = false)
    (hlast : timeOf z (z.transitions.size - 1) ≤ i64max - 172800) :
    (makeTime z h' (breakTime z h i64max).val.1.cs).val = (mkUnique i64max, h') := by
  have hn := wf.nonempty
  have hl : z.transitions.size - 1 < z.transitions.size := by omega
  have hseg : segIndex z i64max = z.transitions.size :=
    Tc.segIndex_of_inSeg wf ⟨Nat.le_refl _, fun _ => by omega, fun h => absurd h (by omega)⟩
  rw [breakTime_noshift z h i64max (Or.inl hext)]
  obtain ⟨v, sn, _⟩ := breakTimeCore_spec z wf cc h i64max
  rw [Tc.offAt_eq, hseg] at sn
  generalize (breakTimeCore z h i64max).val.1.cs = cs at v sn
  obtain ⟨vl, sl⟩ := cc.civ _ hl
  obtain ⟨vp, sp⟩ := cc.prev _ hl
  have o1 := os _ (wf.typeIdx _ hl)
  have o2 := os _ (prevType_lt z wf (z.transitions.size - 1))
  have ho : offBefore z z.transitions.size = offOf z (z.transitions.size - 1) := Tc.offBefore_pos z hn
  rw [makeTime_tail z h' cs wf cc cso v (Or.inl hext) (by rw [sl, sn, ho]; unfold offOf at *; omega)
    ((lt_iff_secNum vp v).2 (by rw [sp, sn, ho]; unfold offBefore offOf; omega)), Tc.uval,
    if_neg (Nat.ne_of_gt hn), if_pos rfl, if_neg (by omega), sn, Int.add_sub_cancel]

theorem min_roundtrip (z : Zone) (h h' : Nat) (wf : TableWF z) (cc : CivilCols z)
    (os : OffsetsSmall z) (hfirst : i64min + 172800 ≤ timeOf z 0) :
    (makeTime z h' (breakTime z h i64min).val.1.cs).val = (mkUnique i64min, h') := by
  have hn := wf.nonempty
  have hseg : segIndex z i64min = 0 :=
    Tc.segIndex_of_inSeg wf ⟨Nat.zero_le _, fun h => absurd h (by omega), fun _ => by omega⟩
  have hlt : i64min < timeOf z (z.transitions.size - 1) := by
    have := Tc.timeOf_mono wf (Nat.zero_le (z.transitions.size - 1)) (by omega)
    omega
  rw [breakTime_noshift z h i64min (Or.inr hlt)]
  obtain ⟨v, sn, _⟩ := breakTimeCore_spec z wf cc h i64min
  rw [Tc.offAt_eq, hseg] at sn
  generalize (breakTimeCore z h i64min).val.1.cs = cs at v sn
  obtain ⟨a, b⟩ := head_conds z wf cc os v (by omega)
  apply Tc.makeTime_of_core
  rw [makeTimeCore_head z h' cs a b, Tc.headAns_val wf cc v, Tc.uval, if_pos rfl, if_neg (by omega),
    sn, Int.add_sub_cancel]

end Cctz.Tl
