/-
  C01Decode helper proofs: the table a successful `Load` returns, read against the content
  of the file (assembly of the parts).
-/
import Cctz.Proofs.DcLoad

namespace Cctz.Dc
open Cctz Cctz.Tz Cctz.Spec Cctz.Lt Cctz.C01Decode

theorem isTzif_lengths (b : Bytes) (H : Hdr) (d : TzData) (h : IsTzif b H d) :
    d.times.length = H.timecnt ∧ d.idxs.length = H.timecnt ∧ d.types.length = H.typecnt := by
  rcases h with ⟨_, blk, _, _, _, hB, _⟩ | ⟨_, _, _, _, _, blk, _, _, _, _, _, _, _, _, hB, _⟩
  · exact isBlock_lengths 4 H blk d hB
  · exact isBlock_lengths 8 H blk d hB

theorem sentinelFirst_eq : Gen.sentinelFirst = -(2 : Int) ^ 59 := by decide

/-- the model's entry for a (time, type index) pair -/
def mkT (p : Int × Nat) : Transition := { unixTime := p.1, typeIndex := p.2 }

theorem zipWith_mkT (ts : List Int) (is : List Nat) :
    List.zipWith (fun t i => ({ unixTime := t, typeIndex := i } : Transition)) ts is =
      (ts.zip is).map mkT := by
  induction ts generalizing is with
  | nil => rfl
  | cons t ts ih =>
    cases is with
    | nil => rfl
    | cons i is => simp [ih, mkT]

theorem withFirst_eq (d : TzData) (dt : Nat) (hlen : d.times.length = d.idxs.length) :
    withFirst (rawTrans d) dt = ((tableOf d dt).map mkT).toArray := by
  unfold withFirst rawTrans tableOf
  cases ht : d.times with
  | nil =>
    rw [ht] at hlen
    have hi : d.idxs = [] := List.length_eq_zero_iff.1 hlen.symm
    rw [hi]
    simp [sentinelFirst_eq, mkT]
  | cons t ts =>
    cases hi : d.idxs with
    | nil => rw [ht, hi] at hlen; cases hlen
    | cons i is =>
      have e1 : ((List.zipWith (fun t i => ({ unixTime := t, typeIndex := i } : Transition)) (t :: ts)
          (i :: is)).toArray).isEmpty = false := rfl
      have e2 : (((List.zipWith (fun t i => ({ unixTime := t, typeIndex := i } : Transition)) (t :: ts)
          (i :: is)).toArray)[0]?.map (·.unixTime)).getD 0 = t := rfl
      rw [e1, e2, zipWith_mkT]
      dsimp only
      simp only [Bool.false_eq_true, false_or, List.isEmpty_cons, List.headD_cons]
      split
      · apply Array.ext'
        simp [sentinelFirst_eq, mkT]
      · rfl

/-- the table handed to `ExtendTransitions` is the specification's `tableOf` -/
theorem pairsOf_withFirst (d : TzData) (dt : Nat) (hlen : d.times.length = d.idxs.length) :
    pairsOf (withFirst (rawTrans d) dt) = tableOf d dt := by
  rw [withFirst_eq d dt hlen]
  unfold pairsOf
  rw [List.toList_toArray, List.map_map]
  exact List.map_id _

theorem recsOf_rawTypes (d : TzData) : recsOf (rawTypes d) = d.types := by
  unfold recsOf rawTypes
  rw [List.toList_toArray, List.map_map]
  have : projT ∘ unprojT = id := by funext t; rfl
  rw [this, List.map_id]

/-- the tables of a successful load against the content of the file -/
theorem load_decodes (cfg : LoadCfg) (b : Bytes) (z : Zone) (h : (load cfg b).val = .ok z) :
    ∃ (hdr : Hdr) (d : TzData), IsTzif b hdr d ∧ Acceptable hdr d ∧
      z.futureSpec = d.footer ∧
      (z.types.toList.take d.types.length).map (fun t => (t.utcOffset, t.isDst, t.abbrIndex)) = d.types ∧
      d.abbrs <+: z.abbreviations ∧
      tableOf d z.defaultType <+: z.transitions.toList.map (fun t => (t.unixTime, t.typeIndex)) ∧
      z.defaultType = specDefaultType d := by
  obtain ⟨hdr, d, hT, hA, hF⟩ := load_ok_decodes cfg b z h
  have K := finish_keep _ _ hF
  have hl := isTzif_lengths b hdr d hT
  refine ⟨hdr, d, hT, hA, K.spec, ?_, K.abbrs, ?_, K.dflt⟩
  · have := K.types
    rw [show (zoneOf d).types = rawTypes d from rfl, recsOf_rawTypes, List.prefix_iff_eq_take] at this
    rw [List.map_take]
    exact this.symm
  · have := K.trans
    rw [show (zoneOf d).transitions = withFirst (rawTrans d) (specDefaultType d) from rfl,
      pairsOf_withFirst d _ (hl.1.trans hl.2.1.symm)] at this
    rw [show z.defaultType = specDefaultType d from K.dflt]
    exact this

end Cctz.Dc
