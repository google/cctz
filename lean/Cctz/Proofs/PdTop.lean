/-
  C09Denote: the theorems about `parse` assembled from the tail lemmas and the loop invariants.
-/
import Cctz.Proofs.PdMain
import Cctz.Properties.C10Safe

namespace Cctz.Pd
open Cctz Cctz.Bytes Cctz.Format Cctz.Parse Cctz.Spec Cctz.Tz Cctz.Pa

/-- a successful parse in terms of the final loop state -/
theorem parse_ok (sp : Strptime) (fmt input : Bytes) (z : Zone) (t fs : Int) :
    (parse sp fmt input z).val.1 = .ok t fs ↔
      ∃ d, (loopEnd sp fmt input).data = some d ∧ skipSpace d = [] ∧
        (if (loopEnd sp fmt input).sawPercentS = true then t = (loopEnd sp fmt input).percentS ∧ fs = 0
         else afterS (loopEnd sp fmt input) z = .ok t fs) := by
  rw [parse_val, tailVal_ok]

/-- the loop always ends with the input rejected or the whole format consumed -/
theorem loopEnd_fmt (sp : Strptime) (fmt input : Bytes) (d : Bytes)
    (h : (loopEnd sp fmt input).data = some d) : (loopEnd sp fmt input).fmt = [] := by
  have hs : (loopEnd sp fmt input).data = none ∨ (loopEnd sp fmt input).fmt = [] := by
    apply specLoop_safe
    have : (cstr fmt).length ≤ fmt.length := length_takeWhile_le fmt
    show (cstr fmt).length + 1 ≤ _
    omega
  rcases hs with hs | hs
  · rw [hs] at h; cases h
  · exact hs

theorem parse_afterS (sp : Strptime) (fmt input : Bytes) (z : Zone) (t fs : Int)
    (h : (parse sp fmt input z).val.1 = .ok t fs) (hs : (loopEnd sp fmt input).sawPercentS = false) :
    afterS (loopEnd sp fmt input) z = .ok t fs := by
  obtain ⟨d, _, _, h3⟩ := (parse_ok sp fmt input z t fs).1 h
  rw [hs] at h3
  exact h3

/-- conversely, after a loop that consumed everything and saw no `%s`, `parse` is `afterS` -/
theorem parse_of_consumed (sp : Strptime) (fmt input : Bytes) (z : Zone) (d : Bytes)
    (h1 : (loopEnd sp fmt input).data = some d) (h2 : skipSpace d = [])
    (hs : (loopEnd sp fmt input).sawPercentS = false) :
    (parse sp fmt input z).val.1 = afterS (loopEnd sp fmt input) z := by
  rw [parse_val]
  unfold tailVal
  rw [h1]
  simp only [h2, List.isEmpty_nil, Bool.not_true, Bool.false_eq_true, if_false, hs]

/-! ### the zone case: the instant is an int64 value on tame tables -/

theorem cmin_le_secNum (f : Fields) (hv : Valid f) (hy : i64min ≤ f.y) : secNum Wr.cminF ≤ secNum f := by
  apply Int.not_lt.1
  intro hlt
  have hl := (secNum_lt_iff_lex hv Wr.valid_cminF).1 hlt
  obtain ⟨h1, h2, h3, h4, h5, h6, h7, h8, h9, h10⟩ := hv
  simp only [FieldsLex, DateLex, Wr.cminF] at hl
  omega

theorem zone_range (sp : Strptime) (st : PState) (z : Zone) (hI : Inv sp st) (hw : st.weekNum = -1)
    (htod : TodOK (adjTm st)) (hso : st.sawOffset = false) (t fs : Int) (h : afterS st z = .ok t fs)
    (tz : Tame z) (hy : i64min ≤ yearOf st) : inI64 t := by
  obtain ⟨hv, hx, C, vC, sC, ht, _⟩ := (zone_iff sp st z hI hw htod hso t fs).1 h
  have hlo := cmin_le_secNum (fieldsOf st) hv hy
  have hxd : xOf st = secNum (fieldsOf st) + (if (adjTm st).sec = 60 then 1 else 0) := rfl
  have hl := (leap_range st).1
  have h1 : secNum Wr.cminF ≤ secNum C := by rw [sC]; omega
  have h2 : secNum C ≤ secNum Wr.cmaxF := by rw [sC]; exact hx
  have y1 := year_le_of_unitNum_le .second Wr.valid_cminF vC trivial trivial h1
  have y2 := year_le_of_unitNum_le .second vC Wr.valid_cmaxF trivial trivial h2
  rw [ht]
  exact (C10Safe.results_in_range z 0 C tz vC ⟨y1, y2⟩).1

end Cctz.Pd
