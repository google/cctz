/-
  The full semantics of a zone (`Seam.offFull`): it is the table read periodically (`offExt`),
  independent of the hint, equal to the table below the last entry, and k400-periodic from
  `last − k400` on.  Under `SeamAt` the instants that display a civil second of a year ≤ ly are the
  table's, and the instants that display a later civil second are those of the second 400·s years
  earlier moved forward by s cycles.
-/
import Cctz.Proofs.SeamDefs
import Cctz.Proofs.TableLookup
import Cctz.Proofs.TcSeg
import Cctz.Proofs.TableCivil
import Cctz.Proofs.IntLemmas
import Cctz.Proofs.Calendar

namespace Cctz.Seam
open Cctz Cctz.Tz Cctz.Spec

/-- the table predicates do not read `lastYear` -/
theorem wf_lastYear {z : Zone} (h : TableWF z) (ly : Option Int) : TableWF { z with lastYear := ly } :=
  ⟨h.nonempty, h.timeSorted, h.typeIdx, h.defaultIdx⟩

theorem cols_lastYear {z : Zone} (h : CivilCols z) (ly : Option Int) :
    CivilCols { z with lastYear := ly } := ⟨h.civ, h.prev, h.tmax, h.tmin⟩

theorem first_le_last {z : Zone} (wf : TableWF z) : timeOf z 0 ≤ lastT z := by
  have hn := wf.nonempty
  exact Tc.timeOf_mono wf (Nat.zero_le _) (by omega)

theorem takesShift_iff {z : Zone} (wf : TableWF z) (t : Int) :
    Tl.TakesShift z t ↔ (z.extended = true ∧ lastT z ≤ t) := by
  have := first_le_last wf
  unfold Tl.TakesShift lastT at *
  constructor
  · rintro ⟨_, h2, h3⟩; exact ⟨h3, h2⟩
  · rintro ⟨h1, h2⟩; exact ⟨by omega, h2, h1⟩

theorem breakTime_full (z : Zone) (wf : TableWF z) (cc : CivilCols z) (h : Nat) (t : Int) :
    Valid (breakTime z h t).val.1.cs ∧ secNum (breakTime z h t).val.1.cs = t + offExt z t ∧
    (breakTime z h t).val.1.offset = offExt z t := by
  rw [Tl.breakTime_val]
  by_cases c : Tl.TakesShift z t
  · rw [if_pos c]
    have c' := (takesShift_iff wf t).1 c
    have hd : cdiv (t - timeOf z (z.transitions.size - 1)) Gen.kSecsPer400Years + 1 =
        (t - lastT z) / k400 + 1 := by
      show cdiv _ 12622780800 + 1 = _
      rw [cdiv_eq, if_pos (by have := c'.2; unfold lastT at this; omega)]
      rfl
    simp only [hd]
    have hk : Gen.kSecsPer400Years = k400 := rfl
    rw [hk]
    obtain ⟨v, sn, o, _, _⟩ := Tl.breakTimeCore_spec z wf cc h (t - ((t - lastT z) / k400 + 1) * k400)
    obtain ⟨v', sn'⟩ := Tl.yearShift_spec _ v ((t - lastT z) / k400 + 1)
    have he : offExt z t = offAt z (t - ((t - lastT z) / k400 + 1) * k400) := by
      unfold offExt; rw [if_pos c']
    refine ⟨v', ?_, ?_⟩
    · show secNum (yearShift _ _).val = _
      rw [sn', sn, he]; unfold k400; omega
    · rw [he]; exact o
  · rw [if_neg c]
    have c' : ¬ (z.extended = true ∧ lastT z ≤ t) := fun h => c ((takesShift_iff wf t).2 h)
    obtain ⟨v, sn, o, _, _⟩ := Tl.breakTimeCore_spec z wf cc h t
    have he : offExt z t = offAt z t := by unfold offExt; rw [if_neg c']
    rw [he]
    exact ⟨v, sn, o⟩

theorem offFull_eq (z : Zone) (wf : TableWF z) (cc : CivilCols z) (t : Int) :
    offFull z t = offExt z t := (breakTime_full z wf cc 0 t).2.2

theorem breakTime_showsFull (z : Zone) (wf : TableWF z) (cc : CivilCols z) (h : Nat) (t : Int) :
    Valid (breakTime z h t).val.1.cs ∧ showsFull z t (secNum (breakTime z h t).val.1.cs) := by
  obtain ⟨v, sn, _⟩ := breakTime_full z wf cc h t
  refine ⟨v, ?_⟩
  unfold showsFull
  rw [offFull_eq z wf cc, sn]

/-! ### `offExt`: below the last entry, not extended, periodic -/

theorem offExt_below (z : Zone) {t : Int} (h : t < lastT z) : offExt z t = offAt z t := by
  unfold offExt; rw [if_neg (by omega)]

theorem offExt_notExt (z : Zone) (h : z.extended = false) (t : Int) : offExt z t = offAt z t := by
  unfold offExt; rw [if_neg (by rw [h]; simp)]

/-- the instant `BreakTime` looks at lies in `[last − k400, last)` -/
theorem window_range (L t : Int) :
    L - k400 ≤ t - ((t - L) / k400 + 1) * k400 ∧ t - ((t - L) / k400 + 1) * k400 < L := by
  unfold k400; omega

theorem offExt_above (z : Zone) (hx : z.extended = true) {t : Int} (h : lastT z ≤ t) :
    offExt z t = offAt z (t - ((t - lastT z) / k400 + 1) * k400) := by
  unfold offExt; rw [if_pos ⟨hx, h⟩]

theorem offExt_period (z : Zone) (hx : z.extended = true) {t : Int} (h : lastT z - k400 ≤ t) :
    offExt z (t + k400) = offExt z t := by
  have h1 : lastT z ≤ t + k400 := by omega
  rw [offExt_above z hx h1]
  by_cases h2 : lastT z ≤ t
  · rw [offExt_above z hx h2]
    congr 1
    unfold k400 at *; omega
  · rw [offExt_below z (by omega)]
    congr 1
    unfold k400 at *; omega

theorem offExt_period_mul (z : Zone) (hx : z.extended = true) {t : Int} (h : lastT z - k400 ≤ t) :
    ∀ n : Nat, offExt z (t + (n : Int) * k400) = offExt z t := by
  intro n
  induction n with
  | zero => simp
  | succ n ih =>
    have e : t + ((n + 1 : Nat) : Int) * k400 = (t + (n : Int) * k400) + k400 := by
      rw [Int.natCast_succ, Int.add_mul]; omega
    have hn : (0 : Int) ≤ (n : Int) * k400 := Int.mul_nonneg (Int.natCast_nonneg n) (by decide)
    rw [e, offExt_period z hx (by omega), ih]


/-! ### year starts -/

theorem yearStart_window (ly : Int) : yearStart (ly - 399) = yearStart (ly + 1) - k400 := by
  have := dayNum_add_400_mul (ly - 399) 1 1 1
  rw [show ly - 399 + 400 * 1 = ly + 1 by omega] at this
  simp only [yearStart, secNum, k400]
  omega

theorem yearStart_le_iff {cs : Fields} (v : Valid cs) (y : Int) : yearStart y ≤ secNum cs ↔ y ≤ cs.y := by
  have h := secNum_lt_iff_lex v (show Valid ⟨y, 1, 1, 0, 0, 0⟩ by unfold Valid daysInMonth; simp)
  have hl : FieldsLex cs ⟨y, 1, 1, 0, 0, 0⟩ ↔ cs.y < y := by
    obtain ⟨m1, _, d1, _, h1, _, mi1, _, s1, _⟩ := v
    unfold FieldsLex DateLex
    simp only
    omega
  unfold yearStart
  rw [hl] at h
  omega

/-! ### the table next to the seam -/

theorem offAt_last {z : Zone} (wf : TableWF z) {u : Int} (h : lastT z ≤ u) : offAt z u = lastOff z := by
  have hn := wf.nonempty
  rw [Tc.offAt_of_inSeg wf ⟨Nat.le_refl _, fun _ => h, fun hh => absurd hh (by omega)⟩]
  have := Tc.offBefore_succ z (z.transitions.size - 1)
  rw [show z.transitions.size - 1 + 1 = z.transitions.size by omega] at this
  exact this

theorem offAt_before_last {z : Zone} (wf : TableWF z) : offAt z (lastT z - 1) = lastOffBefore z := by
  have hn := wf.nonempty
  refine Tc.offAt_of_inSeg wf ⟨by omega, fun h => ?_, fun _ => by unfold lastT; omega⟩
  have := Tc.timeOf_lt wf (show z.transitions.size - 1 - 1 < z.transitions.size - 1 by omega) (by omega)
  unfold lastT; omega

theorem disp_below_last {z : Zone} (wf : TableWF z) (sep : Separated z) {u : Int} (h : u < lastT z) :
    u + offAt z u < lastT z + lastOffBefore z := by
  have hn := wf.nonempty
  have := Tc.disp_before_entry wf sep (k := z.transitions.size - 1) (by omega) h
  unfold lastT lastOffBefore
  omega

section seam
variable {z : Zone} (wf : TableWF z) (sep : Separated z) (hx : z.extended = true) {ly : Int}
  (sm : SeamAt z ly)
include wf hx sm

theorem ext_iff_table {x : Int} (hxY : x < yearStart (ly + 1)) (u : Int) :
    u + offExt z u = x ↔ u + offAt z u = x := by
  by_cases hu : u < lastT z
  · rw [offExt_below z hu]
  · have hu' : lastT z ≤ u := by omega
    rw [offExt_above z hx hu', offAt_last wf hu']
    have hw := window_range (lastT z) u
    have hy := yearStart_window ly
    have hwin := sm.window _ hw.1 hw.2
    have hs : 1 ≤ (u - lastT z) / k400 + 1 := by unfold k400; omega
    generalize (u - lastT z) / k400 + 1 = s at *
    generalize offAt z (u - s * k400) = a at *
    simp only [k400] at *
    constructor
    · intro h
      have := hwin (Or.inr (by omega))
      omega
    · intro h
      have := hwin (Or.inl (by omega))
      omega

include sep

theorem ext_step {x : Int} (hxY : yearStart (ly - 399) ≤ x) (u : Int) :
    u + offExt z u = x + k400 ↔ (u - k400) + offExt z (u - k400) = x := by
  have hy := yearStart_window ly
  by_cases hu : u < lastT z
  · have h1 := disp_below_last wf sep hu
    have h2 := sm.below (u - k400) (by omega)
    have h3 := sm.lastPrev
    rw [offExt_below z hu, offExt_below z (show u - k400 < lastT z by unfold k400; omega)]
    constructor <;> intro h <;> omega
  · have := offExt_period z hx (show lastT z - k400 ≤ u - k400 by omega)
    rw [show u - k400 + k400 = u by omega] at this
    rw [this]
    omega

theorem ext_steps {x : Int} (hxY : yearStart (ly - 399) ≤ x) : ∀ (n : Nat) (u : Int),
    u + offExt z u = x + (n : Int) * k400 ↔ (u - (n : Int) * k400) + offExt z (u - (n : Int) * k400) = x := by
  intro n
  induction n with
  | zero => intro u; simp
  | succ n ih =>
    intro u
    have hn : (0 : Int) ≤ (n : Int) * k400 := Int.mul_nonneg (Int.natCast_nonneg n) (by decide)
    have e1 : x + ((n + 1 : Nat) : Int) * k400 = (x + (n : Int) * k400) + k400 := by
      rw [Int.natCast_succ, Int.add_mul]; omega
    have e2 : u - ((n + 1 : Nat) : Int) * k400 = (u - k400) - (n : Int) * k400 := by
      rw [Int.natCast_succ, Int.add_mul]; omega
    rw [e1, e2, ext_step wf sep hx sm (show yearStart (ly - 399) ≤ x + (n : Int) * k400 by omega) u]
    exact ih (u - k400)

end seam

end Cctz.Seam
