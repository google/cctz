/-
  C08 helper proofs: the renderers `format64`, `format02d`, `formatOffset` against the documented
  renderings of `Cctz/Spec/FormatSpec.lean`, and length bounds for the scratch buffer.
-/
import Cctz.Model.Format
import Cctz.Spec.FormatSpec
import Cctz.Proofs.IntLemmas
import Cctz.Proofs.WdInt

namespace Cctz.Fm
open Cctz Cctz.Bytes Cctz.Format Cctz.Spec Cctz.Wd

theorem natDigits_eq (n : Nat) : natDigits n = decNat n := rfl

theorem decNat_length_pos (n : Nat) : 0 < (decNat n).length := by
  simp [decNat, Nat.length_toDigits_pos]

theorem decNat_length_le (n k : Nat) (hk : 0 < k) (h : n < 10 ^ k) : (decNat n).length ≤ k := by
  simp only [decNat, List.length_map]
  exact (Nat.length_toDigits_le_iff (by decide) hk).2 h

theorem format64_zero (v : Int) : format64 0 v = decInt v := by
  unfold format64 decInt
  by_cases h : v < 0
  · simp [h, natDigits_eq]
  · simp [h, natDigits_eq]

theorem format64_four (y : Int) : format64 4 y = year4 y := by
  unfold format64 year4 decPad
  by_cases h : y < 0
  · simp [h, natDigits_eq]
  · simp [h, natDigits_eq]

theorem decPad_length (w n : Nat) : (decPad w n).length = max w (decNat n).length := by
  simp only [decPad, List.length_append, List.length_replicate]; omega

theorem decPad_length_of_lt (w n : Nat) (hw : 0 < w) (h : n < 10 ^ w) : (decPad w n).length = w := by
  have := decNat_length_le n w hw h
  rw [decPad_length]; omega

theorem format64_nonneg (w : Nat) (v : Int) (h : 0 ≤ v) : format64 (w : Int) v = decPad w v.toNat := by
  unfold format64 decPad
  have hn : ¬ v < 0 := by omega
  have : v.natAbs = v.toNat := by omega
  simp [hn, natDigits_eq, this]

/-- a value of at most `k` digits in a field of width at most `k + 1` takes at most `k + 1` bytes
(sign included) -/
theorem format64_length_le (w v : Int) (k : Nat) (hk : 0 < k) (hv : v.natAbs < 10 ^ k) (hw : w ≤ k + 1) :
    (format64 w v).length ≤ k + 1 := by
  have hd := decNat_length_le v.natAbs k hk hv
  unfold format64
  by_cases h : v < 0
  · simp only [h, decide_true, if_true, natDigits_eq, List.length_cons, List.length_append,
      List.length_replicate]
    omega
  · simp only [h, decide_false, natDigits_eq, Bool.false_eq_true, if_false, List.length_append,
      List.length_replicate]
    omega

theorem natAbs_lt_of_inI64 (v : Int) (h : inI64 v) : v.natAbs < 10 ^ 19 := by
  unfold inI64 i64min i64max at h; omega

/-- the 100 two-digit values (a finite table) -/
theorem format02d_table :
    (List.range 100).all (fun n => decide ((format02d (n : Int)).ok ∧ (format02d (n : Int)).val = decPad 2 n)) = true := by
  decide +kernel

theorem format02d_spec (v : Int) (h0 : 0 ≤ v) (h1 : v ≤ 99) :
    (format02d v).ok ∧ (format02d v).val = decPad 2 v.toNat := by
  have h := format02d_table
  rw [List.all_eq_true] at h
  have := h v.toNat (by simp; omega)
  rw [decide_eq_true_iff] at this
  rwa [show ((v.toNat : Nat) : Int) = v by omega] at this

theorem format02d_length (v : Int) : (format02d v).val.length = 2 := by
  simp [format02d]

/-- `FormatOffset` after the sign has been split off: the seconds group and the sign -/
def offTailS (neg : Bool) (off : Int) (mode : Bytes) : Ck (Bytes × Bool) :=
  let seconds := cmod off 60
  let off1 := cdiv off 60
  let minutes := cmod off1 60
  let hours := cdiv off1 60
  let sep := mode.headD 0
  let ext := sep ≠ 0 ∧ mode.getD 1 0 = 42
  let ccc := ext ∧ mode.getD 2 0 = 58
  (if ext ∧ (!ccc ∨ seconds ≠ 0) then do
      let s ← format02d seconds
      pure (sep :: s, neg)
    else pure ([], if hours = 0 ∧ minutes = 0 then false else neg) : Ck (Bytes × Bool))

/-- the minutes group -/
def offTailM (off : Int) (mode : Bytes) : Ck Bytes :=
  let seconds := cmod off 60
  let off1 := cdiv off 60
  let minutes := cmod off1 60
  let sep := mode.headD 0
  let ext := sep ≠ 0 ∧ mode.getD 1 0 = 42
  let ccc := ext ∧ mode.getD 2 0 = 58
  (if !ccc ∨ minutes ≠ 0 ∨ seconds ≠ 0 then do
      let m ← format02d minutes
      pure ((if sep ≠ 0 then [sep] else []) ++ m)
    else pure [] : Ck Bytes)

def offCore (neg : Bool) (off : Int) (mode : Bytes) : Ck Bytes := do
  let r ← offTailS neg off mode
  let tailM ← offTailM off mode
  let h ← format02d (cdiv (cdiv off 60) 60)
  pure ([if r.2 then 45 else 43] ++ h ++ tailM ++ r.1)

theorem formatOffset_eq (off : Int) (mode : Bytes) :
    formatOffset off mode =
      (if decide (off < 0) then chk32 (-off) else pure off : Ck Int) >>= fun o => offCore (decide (off < 0)) o mode := rfl

theorem absOff_val (off : Int) :
    (if decide (off < 0) then chk32 (-off) else pure off : Ck Int).val = (off.natAbs : Int) := by
  split <;> simp_all <;> omega

theorem absOff_ok (off : Int) (h1 : -90000 < off) (h2 : off < 90000) :
    (if decide (off < 0) then chk32 (-off) else pure off : Ck Int).ok := by
  split
  · rw [chk32_ok]; unfold inI32 i32min i32max; omega
  · simp

theorem cmod_cast (a : Nat) : cmod (a : Int) 60 = ((a % 60 : Nat) : Int) := by
  rw [cmod_of_nonneg _ (by omega)]; omega
theorem cdiv_cast (a : Nat) : cdiv (a : Int) 60 = ((a / 60 : Nat) : Int) := by
  rw [cdiv_of_nonneg _ (by omega)]; omega

theorem format02d_nat (n : Nat) (h : n ≤ 99) :
    (format02d (n : Int)).ok ∧ (format02d (n : Int)).val = decPad 2 n := by
  have := format02d_spec n (by omega) (by omega)
  simpa using this


theorem format02d_sec (a : Nat) : (format02d ((a : Int) % 60)).ok ∧ (format02d ((a : Int) % 60)).val = decPad 2 (a % 60) := by
  have := format02d_nat (a % 60) (by omega); push_cast at this; exact this
theorem format02d_min (a : Nat) : (format02d ((a : Int) / 60 % 60)).ok ∧ (format02d ((a : Int) / 60 % 60)).val = decPad 2 (a / 60 % 60) := by
  have := format02d_nat (a / 60 % 60) (by omega); push_cast at this; exact this
theorem format02d_hour (a : Nat) (ha : a < 90000) : (format02d ((a : Int) / 60 / 60)).ok ∧ (format02d ((a : Int) / 60 / 60)).val = decPad 2 (a / 3600) := by
  have := format02d_nat (a / 60 / 60) (by omega); push_cast at this
  rwa [show a / 60 / 60 = a / 3600 by omega] at this

theorem offCore_ok (neg : Bool) (a : Nat) (ha : a < 90000) (mode : Bytes) : (offCore neg a mode).ok := by
  simp only [offCore, offTailS, offTailM, cmod_cast, cdiv_cast, Ck.bind_ok]
  refine ⟨?_, ?_, ?_, Ck.pure_ok _⟩
  · split
    · simp [format02d_sec]
    · simp
  · split
    · simp [format02d_min]
    · simp
  · simp [format02d_hour a ha]

theorem ite_congr_prop {α} {p q : Prop} [Decidable p] [Decidable q] (h : p ↔ q) (x y : α) :
    (if p then x else y) = (if q then x else y) := by
  by_cases hp : p
  · rw [if_pos hp, if_pos (h.1 hp)]
  · rw [if_neg hp, if_neg (fun hq => hp (h.2 hq))]

theorem formatOffset_val (off : Int) (h1 : -90000 < off) (h2 : off < 90000) :
    (formatOffset off []).val = offHM false off ∧ (formatOffset off [58]).val = offHM true off ∧
    (formatOffset off [58, 42]).val = offHMS off ∧ (formatOffset off [58, 42, 58]).val = offMin off := by
  have ha : off.natAbs < 90000 := by omega
  simp only [formatOffset_eq, Ck.bind_val, absOff_val]
  simp only [offCore, offTailS, offTailM, offMin, offHMS, offHM, cmod_cast, cdiv_cast, Ck.bind_val, Ck.pure_val]
  generalize off.natAbs = a at *
  have hs' : ((a : Int) % 60 = 0) = (a % 60 = 0) := by apply propext; omega
  have hm' : ((a : Int) / 60 % 60 = 0) = (a / 60 % 60 = 0) := by apply propext; omega
  have hh' : ((a : Int) / 60 / 60 = 0) = (a / 3600 = 0) := by apply propext; omega
  have hz : (format02d 0).val = decPad 2 0 := by decide
  refine ⟨?_, ?_, ?_, ?_⟩
  -- without seconds the sign is negative unless hours and minutes are both 0
  · simp [format02d_min, format02d_hour a ha, hm', hh']
    apply ite_congr_prop; omega
  · simp [format02d_min, format02d_hour a ha, hm', hh']
    apply ite_congr_prop; omega
  · simp [format02d_sec, format02d_min, format02d_hour a ha]
  -- the shortest form drops seconds, then minutes, that are 0
  · by_cases hs : a % 60 = 0 <;> by_cases hm : a / 60 % 60 = 0 <;>
      simp [format02d_sec, format02d_min, format02d_hour a ha, hs', hm', hh', hs, hm, hz]
    all_goals (apply ite_congr_prop; omega)

theorem formatOffset_ok (off : Int) (mode : Bytes) (h1 : -90000 < off) (h2 : off < 90000) :
    (formatOffset off mode).ok := by
  rw [formatOffset_eq, Ck.bind_ok, absOff_val]
  exact ⟨absOff_ok off h1 h2, offCore_ok _ _ (by omega) _⟩

theorem offTailS_length (neg : Bool) (off : Int) (mode : Bytes) : (offTailS neg off mode).val.1.length ≤ 3 := by
  simp only [offTailS]; split <;> simp [format02d_length]

theorem offTailM_length (off : Int) (mode : Bytes) : (offTailM off mode).val.length ≤ 3 := by
  simp only [offTailM]; split
  · simp only [Ck.bind_val, Ck.pure_val, List.length_append, format02d_length]; split <;> simp
  · simp

/-- `FormatOffset` writes at most 9 bytes whatever the offset: sign, three two-digit groups, two
separators -/
theorem formatOffset_length (off : Int) (mode : Bytes) : (formatOffset off mode).val.length ≤ 9 := by
  rw [formatOffset_eq, Ck.bind_val]
  generalize (if decide (off < 0) = true then chk32 (-off) else pure off : Ck Int).val = o
  simp only [offCore, Ck.bind_val, Ck.pure_val, List.length_append, List.length_cons, List.length_nil,
    format02d_length]
  have h1 := offTailS_length (decide (off < 0)) o mode
  have h2 := offTailM_length o mode
  omega

end Cctz.Fm
