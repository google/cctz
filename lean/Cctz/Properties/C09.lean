/-
  C09 — parse() accepts only well-formed in-range input (model level; strptime is a parameter).
-/
import Cctz.Model.Parse
import Cctz.Spec.FormatSpec
import Cctz.Spec.PosixGrammar
import Cctz.Proofs.PaPercent
import Cctz.Proofs.BytesLemmas

namespace Cctz.C09
open Cctz Cctz.Bytes Cctz.Format Cctz.Parse Cctz.Spec

/-- the integer reader: on success the value is the decimal value of the digits it consumed (with
sign), lies in [min, max], at least one digit was consumed, and at most `width` characters when a
width is given -/
/- NOTE: this first wording (with `kmin < v`) is FALSE — the reader accepts `kmin` itself after a '-'
   (that is how "-9223372036854775808" parses); kept only as the subject of `parseInt_counterexample`.
   The property theorem is `parseInt : parseInt_statement` below. -/
def parseInt_strict_statement : Prop :=
  ∀ (kmin : Int) (dp rest : Bytes) (width min max v : Int), kmin < 0 →
    parseInt kmin dp width min max = some (rest, v) →
    min ≤ v ∧ v ≤ max ∧ kmin < v ∧ v ≤ -(kmin + 1) ∧
    ∃ used : Bytes, dp = used ++ rest ∧ used ≠ [] ∧ (width > 0 → (used.length : Int) ≤ width) ∧
      ((∃ ds, used = ds ∧ ds ≠ [] ∧ (∀ c ∈ ds, isDigit c = true) ∧ v = numVal ds) ∨
       (∃ ds, used = 45 :: ds ∧ ds ≠ [] ∧ (∀ c ∈ ds, isDigit c = true) ∧ v = -numVal ds ∧ v ≠ 0))

/-- every numeric field a successful parse accepted lies in its documented range (the bounds are
those extracted from the C++ on every run) -/
def field_ranges_statement : Prop :=
  ∀ (sp : Strptime) (fmt input : Bytes) (z : Tz.Zone) (sec fsv : Int),
    (parse sp fmt input z).val.1 = .ok sec fsv →
    ∀ c v, (c, v) ∈ (parse sp fmt input z).val.2.fields →
      (c = 109 → 1 ≤ v ∧ v ≤ 12) ∧ ((c = 100 ∨ c = 101) → 1 ≤ v ∧ v ≤ 31) ∧ (c = 72 → 0 ≤ v ∧ v ≤ 23) ∧
      (c = 77 → 0 ≤ v ∧ v ≤ 59) ∧ (c = 83 → 0 ≤ v ∧ v ≤ 60) ∧ ((c = 85 ∨ c = 87) → 0 ≤ v ∧ v ≤ 53) ∧
      (c = 117 → 1 ≤ v ∧ v ≤ 7) ∧ (c = 119 → 0 ≤ v ∧ v ≤ 6) ∧ (c = 52 → -999 ≤ v ∧ v ≤ 9999) ∧ (c = 89 → inI64 v)

/-- the sub-second reader: digits beyond femtoseconds are dropped, not rounded -/
def subseconds_statement : Prop :=
  ∀ (dp rest : Bytes) (v : Int), parseSubSeconds dp = some (rest, v) →
    0 ≤ v ∧ v < 1000000000000000 ∧
    ∃ ds, dp = ds ++ rest ∧ ds ≠ [] ∧ (∀ c ∈ ds, isDigit c = true) ∧ (rest.headD 0 |> isDigit) = false ∧
      v = numVal (ds.take 15) * 10 ^ (15 - (ds.take 15).length)

/-- the offset reader accepts only ±hh[[:]mm[[:]ss]] with hh ≤ 23, mm, ss ≤ 59 (or Z/z) -/
def offset_statement : Prop :=
  ∀ (dp rest : Bytes) (sep : UInt8) (off : Int), parseOffset dp sep = some (rest, off) →
    -86400 < off ∧ off < 86400

/-- with %s everything else is ignored and the value is returned as is, with zero sub-seconds -/
def percent_s_statement : Prop :=
  ∀ (z : Tz.Zone) (t : Int), inI64 t →
    (parse (fun _ _ _ => none) (ofString "%s") (decInt t) z).val.1 = .ok t 0

/-- no (format, input) pair makes the specifier loop run out of fuel: it always ends with the input
rejected or the whole format consumed -/
def parse_safe_statement : Prop :=
  ∀ (sp : Strptime) (fmt input : Bytes), 
    let st := specLoop sp (fmt.length + input.length + 2) { data := some (skipSpace (cstr input)), fmt := cstr fmt }
    st.data = none ∨ st.fmt = []

/-- the extracted bounds are the documented ones -/
def constants_statement : Prop :=
  Gen.parse_m = (2, 1, 12) ∧ Gen.parse_d = (2, 1, 31) ∧ Gen.parse_e = (2, 1, 31) ∧ Gen.parse_H = (2, 0, 23) ∧
  Gen.parse_M = (2, 0, 59) ∧ Gen.parse_S = (2, 0, 60) ∧ Gen.parse_U = (0, 0, 53) ∧ Gen.parse_W = (0, 0, 53) ∧
  Gen.parse_u = (0, 1, 7) ∧ Gen.parse_w = (0, 0, 6) ∧ Gen.parse_E4Y = (4, -999, 9999) ∧
  Gen.parseOff_hours = (2, 0, 23) ∧ Gen.parseOff_minutes = (2, 0, 59) ∧ Gen.parseOff_seconds = (2, 0, 59)

/-! ## Proofs -/

theorem constants : constants_statement := by
  unfold constants_statement
  decide

/-- `parseInt_strict_statement` is FALSE as written: after a '-' the reader accepts `kmin` itself
(that is how "-9223372036854775808" parses), so `kmin < v` cannot hold.  Witness: kmin = -10 and
the text "-10". -/
theorem parseInt_counterexample : ¬ parseInt_strict_statement := by
  intro h
  have h1 : parseInt (-10) [45, 49, 48] 0 (-100) 100 = some ([], -10) := by decide +kernel
  have := h (-10) [45, 49, 48] [] 0 (-100) 100 (-10) (by decide) h1
  omega

/-- the same failure at the type the C++ instantiates: INT64_MIN is accepted by `ParseInt<int64>` -/
theorem parseInt_counterexample_i64 :
    parseInt64 (ofString "-9223372036854775808") 0 i64min i64max = some ([], i64min) := by
  simp only [ofString_eq]; decide +kernel

/-- corrected statement: `kmin ≤ v`, and `v = kmin` only behind a '-' sign; everything else as in
`parseInt_strict_statement` -/
def parseInt_statement : Prop :=
  ∀ (kmin : Int) (dp rest : Bytes) (width min max v : Int), kmin < 0 →
    parseInt kmin dp width min max = some (rest, v) →
    min ≤ v ∧ v ≤ max ∧ kmin ≤ v ∧ (v = kmin → dp.headD 0 = 45) ∧ v ≤ -(kmin + 1) ∧
    ∃ used : Bytes, dp = used ++ rest ∧ used ≠ [] ∧ (width > 0 → (used.length : Int) ≤ width) ∧
      ((∃ ds, used = ds ∧ ds ≠ [] ∧ (∀ c ∈ ds, isDigit c = true) ∧ v = numVal ds) ∨
       (∃ ds, used = 45 :: ds ∧ ds ≠ [] ∧ (∀ c ∈ ds, isDigit c = true) ∧ v = -numVal ds ∧ v ≠ 0))

theorem parseInt_spec : parseInt_statement := by
  intro kmin dp rest width min max v hk h
  exact Pa.parseInt_sound kmin dp rest width min max v hk h

/-- the hypotheses are satisfiable on non-trivial values -/
example : parseInt32 (ofString "-07x") 3 (-99) 99 = some (ofString "x", -7) := by simp only [ofString_eq]; decide +kernel
example : parseInt32 (ofString "2024-") 4 (-999) 9999 = some (ofString "-", 2024) := by simp only [ofString_eq]; decide +kernel

theorem field_ranges : field_ranges_statement := by
  intro sp fmt input z sec fsv _ c v hm
  exact Pa.parse_fields_range sp fmt input z (c, v) hm

/-- the hypothesis is satisfiable: a successful parse with six accepted fields (leap second) -/
example :
    (parse (fun _ _ _ => none) (ofString "%Y-%m-%d %H:%M:%S") (ofString "2024-02-29 23:59:60")
      (Tz.resetToBuiltinUTC 0).val).val.1 = .ok 1709251200 0 ∧
    (parse (fun _ _ _ => none) (ofString "%Y-%m-%d %H:%M:%S") (ofString "2024-02-29 23:59:60")
      (Tz.resetToBuiltinUTC 0).val).val.2.fields =
        [(89, 2024), (109, 2), (100, 29), (72, 23), (77, 59), (83, 60)] := by
  simp only [ofString_eq]; decide +kernel

theorem subseconds : subseconds_statement := by
  intro dp rest v h
  exact Pa.parseSubSeconds_sound dp rest v h

example : parseSubSeconds (ofString "1234567890123456789Z") = some (ofString "Z", 123456789012345) := by
  simp only [ofString_eq]; decide +kernel

theorem offset : offset_statement := by
  intro dp rest sep off h
  exact Pa.parseOffset_range dp rest sep off h

example : parseOffset (ofString "-23:59:59") 58 = some ([], -86399) := by simp only [ofString_eq]; decide +kernel

theorem percent_s : percent_s_statement := by
  intro z t ht
  exact Pa.parse_percent_s _ z t ht

example : inI64 i64min ∧ inI64 (-1) ∧ inI64 i64max := by decide

theorem parse_safe : parse_safe_statement := by
  intro sp fmt input
  apply Pa.specLoop_safe
  have : (cstr fmt).length ≤ fmt.length := Pa.length_takeWhile_le fmt
  show (cstr fmt).length + 1 ≤ _
  omega

end Cctz.C09
