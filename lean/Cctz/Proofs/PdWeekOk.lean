/-
  `FromWeek` raises no flag: every date it touches lies within a few hundred days of January 1st of
  a year in (-400, 400).
-/
import Cctz.Proofs.PdWeek
import Cctz.Proofs.LexLoop

namespace Cctz.Pd
open Cctz Cctz.Bytes Cctz.Format Cctz.Parse Cctz.Spec Cctz.Tz Cctz.Pa

theorem dayNum_m400 : dayNum (-400) 1 1 = -865625 := by decide
theorem dayNum_p400 : dayNum 400 1 1 = -573431 := by decide

theorem year_small (f : Fields) (hv : Valid f) (ha : Aligned .day f)
    (h1 : -1084770 ≤ dayNum f.y f.m f.d) (h2 : dayNum f.y f.m f.d ≤ -354285) :
    -1000 ≤ f.y ∧ f.y ≤ 1000 := by
  have v1 : Valid (⟨-1000, 1, 1, 0, 0, 0⟩ : Fields) := by decide
  have v2 : Valid (⟨1000, 1, 1, 0, 0, 0⟩ : Fields) := by decide
  constructor
  · exact year_le_of_unitNum_le .day v1 hv ⟨rfl, rfl, rfl⟩ ha (Int.le_trans (by decide) h1)
  · exact year_le_of_unitNum_le .day hv v2 ha ⟨rfl, rfl, rfl⟩ (Int.le_trans h2 (by decide))

/-- the day `FromWeek` lands on lies within three years of the reduced year -/
theorem weekCd_year (weekNum : Int) (startSunday : Bool) (year wday : Int) (hw : 0 ≤ weekNum ∧ weekNum ≤ 53) :
    -1000 ≤ (weekCd weekNum startSunday year wday).y ∧ (weekCd weekNum startSunday year wday).y ≤ 1000 := by
  obtain ⟨hlo, hhi⟩ := cmod_range year (k := 400) (by decide)
  have hJ1 := jan1_mono (-400) (cmod year 400) (by omega)
  have hJ2 := jan1_mono (cmod year 400) 400 (by omega)
  rw [dayNum_m400] at hJ1; rw [dayNum_p400] at hJ2
  obtain ⟨v, a, W0, k, h1, h2, _, h4, h5, _, h7⟩ := weekCd_spec weekNum startSunday year wday
  exact year_small _ v a (by omega) (by omega)

/-- … so the year it returns is within 1400 of the year it was given -/
theorem weekDate_year_near (weekNum : Int) (startSunday : Bool) (year wday y' m' d' : Int)
    (hw : 0 ≤ weekNum ∧ weekNum ≤ 53) (h : weekDate weekNum startSunday year wday = some (y', m', d')) :
    year - 1400 ≤ y' ∧ y' ≤ year + 1400 := by
  obtain ⟨hlo, hhi⟩ := cmod_range year (k := 400) (by decide)
  have hy := weekCd_year weekNum startSunday year wday hw
  unfold weekDate at h
  simp only [] at h
  split at h
  · cases h
  · simp only [Option.some.injEq, Prod.mk.injEq] at h
    omega

theorem day_step_ok {f : Fields} {n : Int} (k : Int) (h : IsDay f n) (h1 : -1084000 ≤ n) (h2 : n ≤ -355000)
    (hk : -400 ≤ k ∧ k ≤ 400) : (Civil.civilAdd .day f k).ok ∧ (Civil.civilSub .day f k).ok := by
  obtain ⟨hv, ha, rfl⟩ := h
  have hy := year_small f hv ha (by omega) (by omega)
  obtain ⟨v1, a1, u1⟩ := civilAdd_spec .day f k hv ha
  obtain ⟨v2, a2, u2⟩ := civilSub_spec .day f k hv ha
  replace u1 : dayNum _ _ _ = dayNum f.y f.m f.d + k := u1
  replace u2 : dayNum _ _ _ = dayNum f.y f.m f.d - k := u2
  have hy1 := year_small _ v1 a1 (by omega) (by omega)
  have hy2 := year_small _ v2 a2 (by omega) (by omega)
  have hf := inI64_small f.y (by omega) (by omega)
  have hk' := inI64_small k (by omega) (by omega)
  exact ⟨civilAdd_ok .day f k hv ha hf hk' (inI64_small _ (by omega) (by omega)),
    civilSub_ok .day f k hv ha hf hk' (inI64_small _ (by omega) (by omega))⟩

theorem nextWeekday_ok {cd : Fields} {n : Int} (w : Int) (h : IsDay cd n) (hw0 : 0 ≤ w) (hw6 : w ≤ 6)
    (h1 : -1084000 ≤ n) (h2 : n ≤ -355000) : (Civil.nextWeekday cd w).ok := by
  obtain ⟨gok, gval⟩ := Wd.getWeekday_correct cd h.1
  have hbr := Wd.weekdayOfDay_range (dayNum cd.y cd.m cd.d)
  unfold Civil.nextWeekday
  simp only [Ck.bind_ok]
  rw [gval]
  obtain ⟨iok, jok, hji⟩ := Wd.forw_walk (weekdayOfDay (dayNum cd.y cd.m cd.d)) w hbr.1 hbr.2 hw0 hw6
  refine ⟨gok, iok, jok, ?_⟩
  rw [hji]
  exact (day_step_ok _ h h1 h2 ⟨by omega, by omega⟩).1

theorem civilNew_year_ok (y : Int) : (Civil.civilNew .year y 1 1 0 0 0).ok := by
  unfold Civil.civilNew Civil.nSec
  simp

theorem fromWeek_ok (weekNum : Int) (startSunday : Bool) (year : Int) (tm : Tm)
    (hw : 0 ≤ weekNum ∧ weekNum ≤ 53) (hy : inI64 year) : (fromWeek weekNum startSunday year tm).ok := by
  have hq := cdiv_cmod year 400
  obtain ⟨hlo, hhi⟩ := cmod_range year (k := 400) (by decide)
  have hJ1 := jan1_mono (-400) (cmod year 400) (by omega)
  have hJ2 := jan1_mono (cmod year 400) 400 (by omega)
  rw [dayNum_m400] at hJ1; rw [dayNum_p400] at hJ2
  have hws : (0 : Int) ≤ (if startSunday then 6 else 0) ∧ (if startSunday then (6 : Int) else 0) ≤ 6 := by
    split <;> omega
  have pok := (Lx.prevWeekday_ok (cmod year 400) (if startSunday then 6 else 0) ⟨hlo, hhi⟩ hws.1 hws.2).1
  obtain ⟨k1, k2, hk1, hk2, _, _, i0, i1, i2, i3⟩ := weekCd_chain weekNum startSunday year tm.wday
  generalize dayNum (cmod year 400) 1 1 = J at hJ1 hJ2 i0 i1 i2 i3
  have sok := (day_step_ok 1 i0 (by omega) (by omega) (by decide)).2
  obtain ⟨t0, t6⟩ := fromTmWday_range tm.wday
  have nok := nextWeekday_ok _ i1 t0 t6 (by omega) (by omega)
  have aok := (day_step_ok (weekNum * 7) i2 (by omega) (by omega) ⟨by omega, by omega⟩).1
  have hy3 := year_small _ i3.1 i3.2.1 (by rw [i3.2.2]; omega) (by rw [i3.2.2]; omega)
  unfold fromWeek
  simp only [Ck.bind_ok, civilNew_year_val, chk32_val, chk64_val]
  rw [show Civil.align .day ⟨cmod year 400, 1, 1, 0, 0, 0⟩ = ⟨cmod year 400, 1, 1, 0, 0, 0⟩ from rfl]
  generalize (Civil.civilAdd .day _ (weekNum * 7)).val = cd at hy3
  clear i0 i1 i2 i3
  refine ⟨civilNew_year_ok _, pok, sok, nok, ?_, aok, ?_, ?_⟩
  · rw [chk32_ok]; unfold inI32 i32min i32max; omega
  · rw [chk64_ok]; exact inI64_small _ (by omega) (by omega)
  · refine Ck.ok_ite (fun _ => ?_) (fun _ => Ck.pure_ok _)
    have hj : ∀ (u : Unit), year + (cd.y - cmod year 400) ≤ i64max → i64min ≤ year + (cd.y - cmod year 400) →
        ((fun (_ : Unit) => do
          let y' ← chk64 (year + (cd.y - cmod year 400))
          pure (some (y', ({ tm with mon := cd.m - 1, mday := cd.d } : Tm)))) u : Ck (Option (Int × Tm))).ok := by
      intro _ h1 h2
      simp only [Ck.bind_ok, chk64_ok]
      exact ⟨⟨h2, h1⟩, Ck.pure_ok _⟩
    refine Ck.ok_ite (fun hp => Ck.ok_ite (fun _ => Ck.pure_ok _) (fun hn => ?_))
      (fun hp => Ck.ok_ite (fun _ => Ck.pure_ok _) (fun hn => ?_))
    · exact hj () (by omega) (by unfold inI64 at hy; omega)
    · exact hj () (by unfold inI64 at hy; omega) (by omega)

end Cctz.Pd
