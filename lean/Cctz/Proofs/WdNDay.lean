/-
  A small Hoare logic on `Ck` (`Holds x Q`: no oob/fuel/unset flag, and `Q` of the value), and
  `n_day` in it: with the month in range it reads no table out of bounds and its month loop
  terminates, whatever the other arguments are.
  Then (`Cctz.Tb`): `civil_second + n` never indexes outside the month table (`oob` is never
  raised), whatever the six field values are: `n_mon` brings the month into 1..12 before any table
  is read and the month loop keeps it there.  (Used by C11: next/prev_transition report
  `prev_civil_sec + 1`.)
-/
import Cctz.Proofs.WdInt
import Cctz.Proofs.CivilNorm

namespace Cctz.Wd
open Cctz.Spec

def Holds (x : Ck α) (Q : α → Prop) : Prop := Safe x ∧ Q x.val

theorem holds_pure {Q : α → Prop} (a : α) (h : Q a) : Holds (pure a : Ck α) Q := ⟨safe_pure a, h⟩

theorem holds_bind {x : Ck α} {f : α → Ck β} {Q : β → Prop} (P : α → Prop)
    (hx : Holds x P) (hf : ∀ a, P a → Holds (f a) Q) : Holds (x >>= f) Q := by
  obtain ⟨hs, hp⟩ := hx
  obtain ⟨hs', hq⟩ := hf x.val hp
  exact ⟨(safe_bind x f).2 ⟨hs, hs'⟩, hq⟩

theorem holds_bind' {x : Ck α} {f : α → Ck β} {Q : β → Prop} (P : α → Prop)
    (hx : Holds x P) (hf : ∀ a, P a → Holds (f a) Q) : Holds (x.bind' f) Q :=
  holds_bind P hx hf

theorem holds_chk64 (x : Int) : Holds (chk64 x) (fun a => a = x) := ⟨safe_chk64 x, rfl⟩

theorem holds_chk64_bind {f : Int → Ck β} {Q : β → Prop} (x : Int) (h : Holds (f x) Q) :
    Holds (chk64 x >>= f) Q :=
  holds_bind (fun a => a = x) (holds_chk64 x) (fun a ha => by subst ha; exact h)

theorem holds_pure_bind {f : α → Ck β} {Q : β → Prop} (a : α) (h : Holds (f a) Q) :
    Holds ((pure a : Ck α) >>= f) Q :=
  holds_bind (fun x => x = a) ⟨safe_pure a, rfl⟩ (fun x hx => by subst hx; exact h)

theorem holds_map {x : Ck α} {f : α → β} {Q : β → Prop} (h : Holds x (fun a => Q (f a))) :
    Holds (f <$> x) Q := ⟨(safe_map x f).2 h.1, h.2⟩

theorem holds_mono {x : Ck α} {P Q : α → Prop} (h : Holds x P) (hpq : ∀ a, P a → Q a) : Holds x Q :=
  ⟨h.1, hpq _ h.2⟩

theorem b2i_gt2 (m : Int) : b2i (decide (m > 2)) = if m > 2 then 1 else 0 := by
  unfold b2i; by_cases h : m > 2 <;> simp [h]

theorem daysPerYear_safe (ey m : Int) : Safe (Civil.daysPerYear ey m) :=
  (safe_bind _ _).2 ⟨safe_chk64 _, safe_pure _⟩

theorem yearIndex_safe (ey m : Int) : Safe (Civil.yearIndex ey m) :=
  (safe_bind _ _).2 ⟨safe_chk64 _, safe_pure _⟩

theorem daysPerMonth_safe (ey m : Int) (h1 : 1 ≤ m) (h2 : m ≤ 12) : Safe (Civil.daysPerMonth ey m) :=
  safe_of_ok _ (daysPerMonth_ok ey m h1 h2)

theorem dayNum_add_day (y m d k : Int) : dayNum y m (d + k) = dayNum y m d + k :=
  dayNum_linear y m d k

theorem safe_ite {c : Prop} [Decidable c] {x y : Ck α} (hx : Safe x) (hy : Safe y) :
    Safe (if c then x else y) := by
  split <;> assumption

theorem safe_centuryLoop (ey d yi : Int) : Safe (Civil.centuryLoop ey d yi) := by
  fun_induction Civil.centuryLoop ey d yi with
  | case1 ey d yi n h => exact safe_pure _
  | case2 ey d yi n h ih => simp only [safe_bind', safe_chk64, true_and]; exact ih _

theorem safe_fourLoop (ey d yi : Int) : Safe (Civil.fourLoop ey d yi) := by
  fun_induction Civil.fourLoop ey d yi with
  | case1 ey d yi n h => exact safe_pure _
  | case2 ey d yi n h ih => simp only [safe_bind', safe_chk64, true_and]; exact ih _

theorem safe_yearLoop (m ey d : Int) : Safe (Civil.yearLoop m ey d) := by
  fun_induction Civil.yearLoop m ey d with
  | case1 ey d h => simp only [safe_bind', daysPerYear_safe, safe_pure, and_self]
  | case2 ey d h ih => simp only [safe_bind', daysPerYear_safe, safe_chk64, true_and]; exact ih _

/-- with the month in range the table is read inside its bounds and a month has days, so the
`fuel` exit is not taken -/
theorem safe_monthLoop (ey m d : Int) (h1 : 1 ≤ m) (h2 : m ≤ 12) : Safe (Civil.monthLoop ey m d) := by
  fun_induction Civil.monthLoop ey m d with
  | case1 ey m d h => simp only [safe_bind', daysPerMonth_safe ey m h1 h2, safe_pure, and_self]
  | case2 ey m d h hn =>
    rw [daysPerMonth_val ey m h1 h2] at hn
    have := daysInMonth_pos ey m; omega
  | case3 ey m d h hn ih1 ih2 =>
    simp only [safe_bind', daysPerMonth_safe ey m h1 h2, safe_chk64, true_and]
    split
    · simp only [safe_bind', safe_chk64, true_and]; exact ih1 _ (by omega) (by omega)
    · exact ih2 (by omega) (by omega)

open NDay in
theorem safe_nDay (y m d cd hh mm ss : Int) (h1 : 1 ≤ m) (h2 : m ≤ 12) :
    Safe (Civil.nDay y m d cd hh mm ss) := by
  have hcd : ∀ e c, Safe (redCd e c) := fun e c => by
    unfold redCd; exact safe_ite (by simp only [safe_bind, safe_chk64, safe_pure, and_self]) (safe_pure _)
  have hd : ∀ e c, Safe (redD e c m) := fun e c => by
    unfold redD
    refine safe_ite (safe_ite ?_ (safe_pure _)) (safe_ite ?_ ?_) <;>
      simp only [safe_bind, safe_chk64, safe_pure, daysPerYear_safe, and_self]
  have hy : ∀ e c, Safe (yearChunks e c m) := fun e c => by
    unfold yearChunks
    refine safe_ite ?_ (safe_pure _)
    simp only [safe_bind, yearIndex_safe, safe_centuryLoop, safe_fourLoop, safe_yearLoop, and_self]
  have hm : ∀ e c, Safe (monthChunk e m c) := fun e c => by
    unfold monthChunk; exact safe_ite (safe_monthLoop e m c h1 h2) (safe_pure _)
  rw [nDay_eq]
  simp only [safe_bind, safe_chk64, safe_pure, hcd, hd, hy, hm, and_self]

theorem nDay_small (y m d n hh mm ss : Int) (hm1 : 1 ≤ m) (hm2 : m ≤ 12) :
    Holds (Civil.nDay y m d n hh mm ss) (fun r =>
      dayNum r.y r.m r.d = dayNum y m d + n ∧ 1 ≤ r.m ∧ r.m ≤ 12 ∧ 1 ≤ r.d ∧ r.d ≤ daysInMonth r.y r.m ∧
      r.hh = hh ∧ r.mm = mm ∧ r.ss = ss) :=
  have h := nDay_norm y m d n hh mm ss hm1 hm2
  ⟨safe_nDay y m d n hh mm ss hm1 hm2, h.day, h.date.1, h.date.2.1, h.date.2.2.1, h.date.2.2.2,
    h.hh, h.mm, h.ss⟩

theorem safe_nMon (y m d cd hh mm ss : Int) : Safe (Civil.nMon y m d cd hh mm ss) := by
  have hr := cmod_range m (k := 12) (by decide)
  unfold Civil.nMon
  by_cases h12 : m = 12
  · subst h12; exact safe_nDay _ _ _ _ _ _ _ (by omega) (by omega)
  · simp only [bne_iff_ne, ne_eq, h12, not_false_eq_true, if_true, safe_bind, safe_chk64, true_and]
    split
    · simp only [safe_bind, safe_chk64, true_and, chk64_val]
      exact safe_nDay _ _ _ _ _ _ _ (by omega) (by omega)
    · exact safe_nDay _ _ _ _ _ _ _ (by omega) (by omega)

theorem safe_nHour (y m d cd hh mm ss : Int) : Safe (Civil.nHour y m d cd hh mm ss) := by
  unfold Civil.nHour
  simp only [safe_bind, safe_chk64, true_and]
  split <;> simp only [safe_bind, safe_chk64, true_and, safe_nMon]

theorem safe_borrow60 (q r : Int) : Safe (borrow60 q r) := by
  unfold borrow60
  exact safe_ite (by simp only [safe_bind, safe_chk64, safe_pure, and_self]) (safe_pure _)

theorem safe_nMin (y m d hh ch mm ss : Int) : Safe (Civil.nMin y m d hh ch mm ss) := by
  rw [nMin_eq]
  simp only [safe_bind, safe_chk64, safe_borrow60, safe_nHour, and_self]

theorem safe_nSec (y m d hh mm ss : Int) : Safe (Civil.nSec y m d hh mm ss) := by
  by_cases hs : 0 ≤ ss ∧ ss < 60
  · unfold Civil.nSec
    rw [if_pos hs]
    exact safe_ite (safe_ite (safe_ite (safe_pure _) (safe_nMon ..)) (safe_nHour ..)) (safe_nMin ..)
  · rw [nSec_slow_eq _ _ _ _ _ _ hs]
    simp only [safe_bind, safe_chk64, safe_borrow60, safe_nMin, and_self]

end Cctz.Wd

namespace Cctz.Tb
open Cctz

/-- the `oob` flag is not raised -/
def NoOob (x : Ck α) : Prop := x.flags.oob = false

theorem civilAdd_second_noOob (f : Fields) (n : Int) : NoOob (Civil.civilAdd .second f n) := by
  have h : Wd.Safe (Civil.civilAdd .second f n) := by
    unfold Civil.civilAdd Civil.step
    simp only [Wd.safe_map, Wd.safe_bind, Wd.safe_chk64, Wd.safe_nSec, and_self]
  exact h.1

end Cctz.Tb
