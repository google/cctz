/-
  C08 helper proofs: `formatLoop` cut into named pieces (cursor phase `prep`, simple specifiers
  `simplePiece`, the `%:z` family `colonTail`, the `%E…` family `eTail`), each a verbatim copy of the
  model text, with `loop_step` and `loop_done` tying them back to the model.
-/
import Cctz.Model.Format
import Cctz.Proofs.WdInt

namespace Cctz.Fm
open Cctz Cctz.Bytes Cctz.Format Cctz.Wd

theorem scratch_val (b : Bytes) : (scratch b).val = b := by
  unfold scratch; split <;> rfl

abbrev chAt (fmt : Array UInt8) (i : Nat) : UInt8 := fmt.getD i 0
abbrev slice (fmt : Array UInt8) (a b : Nat) : Bytes := (fmt.extract a b).toList
abbrev skipTo (fmt : Array UInt8) (i : Nat) (pct : Bool) (f : Nat) : Nat :=
  formatLoop.skipTo fmt.size (fun i => fmt.getD i 0) i pct f

/-- first scan done: literal text up to the percent sign is emitted -/
def prep1 (fmt : Array UInt8) (st : St) (cur1 : Nat) : List Seg × Nat × Nat :=
  let start := st.cur
  if cur1 ≠ start ∧ st.pending = start then (st.out ++ [.lit (slice fmt st.pending cur1)], cur1, cur1) else (st.out, st.pending, start)

/-- second scan done: a run of percent signs is halved -/
def prep2 (fmt : Array UInt8) (out1 : List Seg) (pending1 start1 cur2 : Nat) : List Seg × Nat :=
  let fin := fmt.size
  if cur2 ≠ start1 ∧ pending1 = start1 then
    let escaped := (cur2 - pending1) / 2
    let o := out1 ++ [.lit (slice fmt pending1 (pending1 + escaped))]
    let p := pending1 + escaped * 2
    if p ≠ cur2 ∧ cur2 = fin then (o ++ [.lit [chAt fmt p]], p + 1) else (o, p)
  else (out1, pending1)

/-- the cursor phase of one iteration: `(out2, pending2, cur2, percent)` -/
def prep (fmt : Array UInt8) (st : St) : List Seg × Nat × Nat × Nat :=
  let fin := fmt.size
  let cur1 := skipTo fmt st.cur false (fin + 1)
  let r1 := prep1 fmt st cur1
  let cur2 := skipTo fmt cur1 true (fin + 1)
  let r2 := prep2 fmt r1.1 r1.2.1 r1.2.2 cur2
  (r2.1, r2.2, cur2, cur1)

theorem prep_eq (fmt : Array UInt8) (st : St) (c1 c2 : Nat) (o1 : List Seg) (p1 s1 : Nat) (o2 : List Seg) (p2 : Nat)
    (h1 : skipTo fmt st.cur false (fmt.size + 1) = c1) (h2 : skipTo fmt c1 true (fmt.size + 1) = c2)
    (hr1 : prep1 fmt st c1 = (o1, p1, s1)) (hr2 : prep2 fmt o1 p1 s1 c2 = (o2, p2)) :
    prep fmt st = (o2, p2, c2, c1) := by
  simp only [prep, h1, h2, hr1, hr2]

def flushTo (fmt : Array UInt8) (pending2 upto : Nat) (o : List Seg) : List Seg :=
  if upto ≠ pending2 then o ++ [.run (slice fmt pending2 upto)] else o

/-- the text of a simple specifier -/
def simplePiece (al : Tz.AbsLookup) (tm : Tm) (t : Int) (c : UInt8) : Ck Bytes :=
  if c = 89 then scratch (format64 0 al.cs.y)                                     -- Y
  else if c = 109 then do let b ← format02d al.cs.m; scratch b                     -- m
  else if c = 100 then do let b ← format02d al.cs.d; scratch b                     -- d
  else if c = 101 then do                                                          -- e
    let b ← format02d al.cs.d
    scratch (if b.headD 0 = 48 then 32 :: b.drop 1 else b)
  else if c = 85 then do let w ← toWeek al.cs 6; let b ← format02d w; scratch b    -- U (weeks start Sunday)
  else if c = 117 then scratch (format64 0 (if tm.wday ≠ 0 then tm.wday else 7))   -- u
  else if c = 87 then do let w ← toWeek al.cs 0; let b ← format02d w; scratch b    -- W (Monday)
  else if c = 119 then scratch (format64 0 tm.wday)                                -- w
  else if c = 72 then do let b ← format02d al.cs.hh; scratch b                     -- H
  else if c = 77 then do let b ← format02d al.cs.mm; scratch b                     -- M
  else if c = 83 then do let b ← format02d al.cs.ss; scratch b                     -- S
  else if c = 122 then do let b ← formatOffset al.offset []; scratch b             -- z
  else if c = 90 then pure al.abbr                                                 -- Z
  else if c = 115 then scratch (format64 0 t)                                      -- s
  else if c = 37 then pure [37]
  else pure []

/-- `%E*S` / `%E*f` -/
def starPiece (al : Tz.AbsLookup) (fs : Int) (isS : Prop) [Decidable isS] : Ck Bytes :=
  let digits := format64 15 fs
  let stripped := (digits.reverse.dropWhile (· = 48)).reverse
  (if isS then do
      let s ← format02d al.cs.ss
      pure (s ++ (if stripped.isEmpty then [] else 46 :: stripped))
    else pure (if stripped.isEmpty then [48] else stripped) : Ck Bytes)

/-- the fraction of `%E#S` / `%E#f` -/
def fracPiece (fs : Int) (n : Int) (x : UInt8) : Ck Bytes :=
  (if n > 0 then do
      let n' := if n > Gen.kDigits10_64 then Gen.kDigits10_64 else n
      let v ← (if n' > 15 then do
          let k ← getC Gen.kExp10 (n' - 15) 1
          chk64 (fs * k)
        else do
          let k ← getC Gen.kExp10 (15 - n') 1
          pure (cdiv fs k) : Ck Int)
      let d := format64 n' v
      pure (if x = 83 then 46 :: d else d)
    else pure [] : Ck Bytes)

/-- the `%E…` family, and everything that is not a library specifier -/
def eTail (fmt : Array UInt8) (al : Tz.AbsLookup) (tm : Tm) (t fs : Int) (fuel : Nat)
    (out2 : List Seg) (pending2 cur2 : Nat) : Ck (List Seg) := do
  let fin := fmt.size
  let c := chAt fmt cur2
  if c ≠ 69 ∨ cur2 + 1 = fin then
    return ← formatLoop fmt al tm t fs fuel { out := out2, pending := pending2, cur := if c ≠ 69 then cur2 else cur2 + 1 }
  let cur3 := cur2 + 1
  let e := chAt fmt cur3
  let fl (o : List Seg) : List Seg := if cur3 - 2 ≠ pending2 then o ++ [.run (slice fmt pending2 (cur3 - 2))] else o
  if e = 84 then        -- %ET
    return ← formatLoop fmt al tm t fs fuel { out := fl out2 ++ [.lit [84]], pending := cur3 + 1, cur := cur3 + 1 }
  if e = 122 then       -- %Ez
    let b ← formatOffset al.offset [58]
    let b ← scratch b
    return ← formatLoop fmt al tm t fs fuel { out := fl out2 ++ [.lit b], pending := cur3 + 1, cur := cur3 + 1 }
  if e = 42 ∧ cur3 + 1 ≠ fin ∧ chAt fmt (cur3 + 1) = 122 then     -- %E*z
    let b ← formatOffset al.offset [58, 42]
    let b ← scratch b
    return ← formatLoop fmt al tm t fs fuel { out := fl out2 ++ [.lit b], pending := cur3 + 2, cur := cur3 + 2 }
  if e = 42 ∧ cur3 + 1 ≠ fin ∧ (chAt fmt (cur3 + 1) = 83 ∨ chAt fmt (cur3 + 1) = 102) then   -- %E*S %E*f
    let piece ← starPiece al fs (chAt fmt (cur3 + 1) = 83)
    let _ ← scratch (format64 15 fs ++ [46, 48, 48])
    return ← formatLoop fmt al tm t fs fuel { out := fl out2 ++ [.lit piece], pending := cur3 + 2, cur := cur3 + 2 }
  if e = 52 ∧ cur3 + 1 ≠ fin ∧ chAt fmt (cur3 + 1) = 89 then      -- %E4Y
    let b ← scratch (format64 4 al.cs.y)
    return ← formatLoop fmt al tm t fs fuel { out := fl out2 ++ [.lit b], pending := cur3 + 2, cur := cur3 + 2 }
  if isDigit e then
    match parseWidth fmt cur3 with
    | some (n, np) =>
      let x := chAt fmt np
      if x = 83 ∨ x = 102 then
        let frac ← fracPiece fs n x
        let piece ← (if x = 83 then do let s ← format02d al.cs.ss; pure (s ++ frac) else pure frac : Ck Bytes)
        let piece ← scratch piece
        return ← formatLoop fmt al tm t fs fuel { out := fl out2 ++ [.lit piece], pending := np + 1, cur := np + 1 }
      else
        return ← formatLoop fmt al tm t fs fuel { out := out2, pending := pending2, cur := cur3 }
    | none => return ← formatLoop fmt al tm t fs fuel { out := out2, pending := pending2, cur := cur3 }
  formatLoop fmt al tm t fs fuel { out := out2, pending := pending2, cur := cur3 }

/-- `%:z`, `%::z`, `%:::z`, otherwise on to the `%E…` family -/
def colonTail (fmt : Array UInt8) (al : Tz.AbsLookup) (tm : Tm) (t fs : Int) (fuel : Nat)
    (out2 : List Seg) (pending2 cur2 : Nat) : Ck (List Seg) := do
  let fin := fmt.size
  let c := chAt fmt cur2
  let flush := flushTo fmt pending2
  if c = 58 ∧ cur2 + 1 ≠ fin then
    if chAt fmt (cur2 + 1) = 122 then
      let b ← formatOffset al.offset [58]
      let b ← scratch b
      return ← formatLoop fmt al tm t fs fuel { out := flush (cur2 - 1) out2 ++ [.lit b], pending := cur2 + 2, cur := cur2 + 2 }
    if chAt fmt (cur2 + 1) = 58 ∧ cur2 + 2 ≠ fin then
      if chAt fmt (cur2 + 2) = 122 then
        let b ← formatOffset al.offset [58, 42]
        let b ← scratch b
        return ← formatLoop fmt al tm t fs fuel { out := flush (cur2 - 1) out2 ++ [.lit b], pending := cur2 + 3, cur := cur2 + 3 }
      if chAt fmt (cur2 + 2) = 58 ∧ cur2 + 3 ≠ fin then
        if chAt fmt (cur2 + 3) = 122 then
          let b ← formatOffset al.offset [58, 42, 58]
          let b ← scratch b
          return ← formatLoop fmt al tm t fs fuel { out := flush (cur2 - 1) out2 ++ [.lit b], pending := cur2 + 4, cur := cur2 + 4 }
  eTail fmt al tm t fs fuel out2 pending2 cur2

/-- one iteration after the cursor phase -/
def specTail (fmt : Array UInt8) (al : Tz.AbsLookup) (tm : Tm) (t fs : Int) (fuel : Nat)
    (out2 : List Seg) (pending2 cur2 percent : Nat) : Ck (List Seg) := do
  let fin := fmt.size
  if cur2 = fin ∨ (cur2 - percent) % 2 = 0 then
    return ← formatLoop fmt al tm t fs fuel { out := out2, pending := pending2, cur := cur2 }
  let c := chAt fmt cur2
  if c = 0 ∨ (Gen.formatSimpleSpecs.contains (c.toNat : Int)) then
    let o := flushTo fmt pending2 (cur2 - 1) out2
    let piece ← simplePiece al tm t c
    return ← formatLoop fmt al tm t fs fuel { out := o ++ [.lit piece], pending := cur2 + 1, cur := cur2 + 1 }
  colonTail fmt al tm t fs fuel out2 pending2 cur2

theorem loop_zero (fmt : Array UInt8) (al : Tz.AbsLookup) (tm : Tm) (t fs : Int) (st : St) :
    formatLoop fmt al tm t fs 0 st = ⟨st.out, flagFuel⟩ := rfl

/-- One iteration with the cursor inside the string.  The scan results are taken out of the model's
`let`s as variables before the rest of the body is compared with `specTail`: with the two `skipTo`
terms left in place the comparison is repeated for every copy of a join point and is slow. -/
theorem loop_step (fmt : Array UInt8) (al : Tz.AbsLookup) (tm : Tm) (t fs : Int) (fuel : Nat) (st : St)
    (o : List Seg) (p c2 c1 : Nat) (hne : st.cur ≠ fmt.size) (hp : prep fmt st = (o, p, c2, c1)) :
    formatLoop fmt al tm t fs (fuel + 1) st = specTail fmt al tm t fs fuel o p c2 c1 := by
  rw [formatLoop.eq_2, if_neg hne]
  extract_lets start cur1 percent cur2
  split
  next out1 pending1 start1 heq1 =>
  split
  next out2 pending2 heq2 =>
  have e : (out2, pending2, cur2, cur1) = (o, p, c2, c1) := by
    rw [← hp, prep, show prep1 fmt st cur1 = _ from heq1]
    exact congrArg (fun r : List Seg × Nat => (r.1, r.2, cur2, cur1)) heq2.symm
  obtain ⟨rfl, rfl, rfl, rfl⟩ : out2 = o ∧ pending2 = p ∧ cur2 = c2 ∧ cur1 = c1 := by
    simpa only [Prod.mk.injEq] using e
  rfl

theorem loop_done (fmt : Array UInt8) (al : Tz.AbsLookup) (tm : Tm) (t fs : Int) (fuel : Nat) (st : St)
    (h : st.cur = fmt.size) :
    formatLoop fmt al tm t fs (fuel + 1) st =
      pure (if fmt.size ≠ st.pending then st.out ++ [.run (slice fmt st.pending fmt.size)] else st.out) := by
  rw [formatLoop.eq_2, if_pos h]

theorem specTail_val_loop (fmt : Array UInt8) (al : Tz.AbsLookup) (tm : Tm) (t fs : Int) (fuel : Nat)
    (out2 : List Seg) (pending2 cur2 percent : Nat) (h : cur2 = fmt.size ∨ (cur2 - percent) % 2 = 0) :
    specTail fmt al tm t fs fuel out2 pending2 cur2 percent =
      formatLoop fmt al tm t fs fuel { out := out2, pending := pending2, cur := cur2 } := by
  unfold specTail
  rw [if_pos h]

theorem loop_done' (fmt : Array UInt8) (al : Tz.AbsLookup) (tm : Tm) (t fs : Int) (fuel : Nat)
    (out : List Seg) (p : Nat) (h : p = fmt.size) :
    formatLoop fmt al tm t fs (fuel + 1) { out := out, pending := p, cur := p } = pure out := by
  rw [loop_done _ _ _ _ _ _ _ h, if_neg (by simp [h])]

theorem skipTo_succ (fmt : Array UInt8) (i : Nat) (pct : Bool) (f : Nat) :
    skipTo fmt i pct (f + 1) =
      if i ≠ fmt.size ∧ (decide (chAt fmt i = 37) == pct) then skipTo fmt (i + 1) pct f else i := rfl

theorem slice_self (fmt : Array UInt8) (p : Nat) : slice fmt p p = [] := by
  simp [slice]

theorem slice_one (fmt : Array UInt8) (p : Nat) (h : p < fmt.size) : slice fmt p (p + 1) = [chAt fmt p] := by
  simp [slice, chAt, h]
  rw [List.drop_eq_getElem_cons (by simpa using h)]; simp

theorem slice_toArray (l : Bytes) (a b : Nat) : slice l.toArray a b = (l.take b).drop a := by
  simp [slice, List.drop_take]
theorem chAt_toArray (l : Bytes) (i : Nat) : chAt l.toArray i = l.getD i 0 := by
  simp [chAt]

end Cctz.Fm
