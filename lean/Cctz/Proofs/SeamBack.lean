/-
  What `Seam.Back` gives.  The instants that display a civil second in the full semantics are the
  table's instants for the second moved back, moved forward, and none of them comes from before
  `last − k400`.  The instant `convert` returns is, before saturation, the first instant that
  displays the second moved back or a later one; under `SeamAt` the first such instant for a second
  of a year ≤ ly is at most one cycle after the first such instant for any second from year
  ly − 399 on, so `convert` preserves order across the seam.
-/
import Cctz.Proofs.SeamPath
import Cctz.Proofs.TableCivil

namespace Cctz.Seam
open Cctz Cctz.Tz Cctz.Spec Cctz.Tc

section
variable {z : Zone} {x s : Int} (wf : TableWF z) (cols : CivilCols z) (sep : Separated z) (B : Back z x s)
include B

theorem Back.extended (hs : 1 ≤ s) : z.extended = true := by
  cases hx : z.extended with
  | true => rfl
  | false => have := B.notExt hx; omega

theorem Back.low (hs : 1 ≤ s) {u : Int} (hu : u < lastT z - k400) : u + offAt z u < x - s * k400 := by
  obtain ⟨ly, _, sm, _, h1⟩ := B.ext (B.extended hs)
  have := sm.below u hu
  have := h1 hs
  omega

include wf cols sep

theorem Back.shows (u : Int) : showsFull z u x ↔ shows z (u - s * k400) (x - s * k400) := by
  unfold showsFull Spec.shows
  rw [offFull_eq z wf cols]
  cases hx : z.extended with
  | false => rw [B.notExt hx, offExt_notExt z hx]; simp
  | true =>
    obtain ⟨ly, _, sm, h2, h1⟩ := B.ext hx
    rcases Int.lt_or_le s 1 with h | h
    · have : s = 0 := by have := B.nonneg; omega
      subst this
      simp only [Int.zero_mul, Int.sub_zero] at h2 ⊢
      exact ext_iff_table wf hx sm h2 u
    · have := ext_steps wf sep hx sm (h1 h) s.toNat u
      rw [show ((s.toNat : Nat) : Int) = s by omega, show x - s * k400 + s * k400 = x by omega] at this
      rw [this]
      exact ext_iff_table wf hx sm h2 _

theorem Back.shown_low (hs : 1 ≤ s) {u : Int} (hu : showsFull z u x) : lastT z - k400 ≤ u - s * k400 :=
  Int.not_lt.1 fun h => by
    have := B.low hs h
    have := (B.shows wf cols sep u).1 hu
    unfold Spec.shows at this
    omega

end

/-! ### order -/

theorem firstAt_seam {z : Zone} (wf : TableWF z) {ly : Int} (sm : SeamAt z ly) {x1 x2 v1 v2 : Int}
    (h1 : FirstAt z x1 v1) (h2 : FirstAt z x2 v2) (hx1 : x1 < yearStart (ly + 1))
    (hx2 : yearStart (ly - 399) ≤ x2) : v1 ≤ v2 + k400 :=
  Int.not_lt.1 fun h => by
    have hy := yearStart_window ly
    have hd := h1.2 _ h
    have h2' := h2.1
    rcases Int.lt_or_le v2 (lastT z - k400) with hb | hb
    · have := sm.below v2 hb; omega
    · rw [offAt_last wf (show lastT z ≤ v2 + k400 by omega)] at hd
      rcases Int.lt_or_le v2 (lastT z) with hc | hc
      · have := sm.window v2 hb hc (Or.inl (by omega)); omega
      · have := offAt_last wf hc; omega

theorem Back.mono {z : Zone} (wf : TableWF z) {x1 x2 s1 s2 a b : Int} (B1 : Back z x1 s1)
    (B2 : Back z x2 s2) (hx : x1 ≤ x2) (fa : FirstAt z (x1 - s1 * k400) a)
    (fb : FirstAt z (x2 - s2 * k400) b) : s1 ≤ s2 ∧ a + s1 * k400 ≤ b + s2 * k400 := by
  cases hx' : z.extended with
  | false =>
    rw [B1.notExt hx', B2.notExt hx'] at *
    have := firstAt_mono fa fb (by omega)
    omega
  | true =>
    obtain ⟨ly, hly, sm, a1, a2⟩ := B1.ext hx'
    obtain ⟨ly', hly', _, b1, b2⟩ := B2.ext hx'
    rw [hly] at hly'; cases hly'
    have hy := yearStart_window ly
    have hk : (0 : Int) < k400 := by decide
    have hs : s1 ≤ s2 := Int.not_lt.1 fun h => by
      have := a2 (by have := B2.nonneg; omega)
      have : (s2 + 1) * k400 ≤ s1 * k400 := Int.mul_le_mul_of_nonneg_right (by omega) (by omega)
      rw [Int.add_mul] at this
      omega
    refine ⟨hs, ?_⟩
    rcases Int.lt_or_le s1 s2 with h | h
    · have := firstAt_seam wf sm fa fb a1 (b2 (by have := B1.nonneg; omega))
      have : (s1 + 1) * k400 ≤ s2 * k400 := Int.mul_le_mul_of_nonneg_right (by omega) (by omega)
      rw [Int.add_mul] at this
      omega
    · have : s1 = s2 := by omega
      subst this
      have := firstAt_mono fa fb (by omega)
      omega

theorem convert_first (z : Zone) (h : Nat) (cs : Fields) (wf : TableWF z) (cols : CivilCols z)
    (sep : Separated z) (tir : TimesInRange z) (fer : FirstEntryRoom z) (so : SeamOK z) (vcs : Valid cs) :
    ∃ v, (convert z h cs).val.1 = moved (cycles z cs) (clamp64 v) ∧
      FirstAt z (secNum cs - cycles z cs * k400) v := by
  obtain ⟨r', ho, hr⟩ := makeTime_shape z h cs wf cols sep so vcs
  obtain ⟨v, hv, f⟩ := outcome_conv wf sep tir fer ho
  refine ⟨v, ?_, f⟩
  rw [convert_val, hr, convOf_moved, ← hv]

end Cctz.Seam
