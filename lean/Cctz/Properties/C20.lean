/-
  C20 — Custom zone-data factory: called on the caller's thread, never for UTC / fixed-offset
  names, at most once per name and serially — the last two only when first loads do not race
  (the documented contract does NOT hold for racing first loads: `contract_counterexample`,
  known finding F3 in DESIGN.md).
-/
import Cctz.Model.Loader
import Cctz.Proofs.LoaderInv
import Cctz.Proofs.LoSeq

namespace Cctz.C20
open Cctz Cctz.Loader

def reach (w : World) (names : List Name) (sched : List Nat) : LState := run w (initState names) sched

/-- every invocation is logged by the thread that called load_time_zone for that very name -/
def factory_on_caller_thread_statement : Prop :=
  ∀ (w : World) (names : List Name) (sched : List Nat) (τ : Nat) (n : Name),
    (τ, n) ∈ (reach w names sched).log → ∃ t, (reach w names sched).threads[τ]? = some t ∧ t.name = n

/-- never for UTC, UTC0 or fixed-offset names -/
def factory_never_for_fixed_statement : Prop :=
  ∀ (w : World) (names : List Name) (sched : List Nat) (τ : Nat) (n : Name),
    (τ, n) ∈ (reach w names sched).log → isFixedName n = false ∧ isUtcName n = false

/-- a schedule in which every thread runs its whole load before the next one starts -/
def sequentialSchedule (order : List Nat) : List Nat := order.flatMap fun τ => [τ, τ, τ, τ]

/-- when loads do not overlap the contract holds: at most one invocation per name, never two at once -/
def factory_once_sequential_statement : Prop :=
  ∀ (w : World) (names : List Name) (order : List Nat) (n : Name), order.Nodup →
    (((reach w names (sequentialSchedule order)).log.filter fun e => e.2 == n).length ≤ 1) ∧
    (reach w names (sequentialSchedule order)).maxActive ≤ 1

/-- a repeat load (the name is already in the cache) returns the cached zone in one step and does
not consult the factory — also the cache half of C14 -/
def cached_load_statement : Prop :=
  ∀ (w : World) (s : LState) (τ : Nat) (t : Thread) (id : Ident),
    s.threads[τ]? = some t → t.pc = .init → isUtcName t.name = false → s.map.lookup t.name = some id →
    (step w s τ).log = s.log ∧ (step w s τ).map = s.map ∧
    ((step w s τ).threads[τ]?.map (·.pc)) = some (.done (id != .utc) id)

/-- a name that failed to load keeps failing with UTC, without consulting the factory again -/
def failed_stays_failed_statement : Prop :=
  ∀ (w : World) (s : LState) (τ : Nat) (t : Thread),
    s.threads[τ]? = some t → t.pc = .init → isUtcName t.name = false → s.map.lookup t.name = some .utc →
    (step w s τ).log = s.log ∧ ((step w s τ).threads[τ]?.map (·.pc)) = some (.done false .utc)

/-- the documented clauses "only once for any zone name" and "serially" fail for racing first
loads: two threads loading the same name, both past the first critical section before either
inserts: two invocations for one name, both in progress at once -/
def contract_counterexample_statement : Prop :=
  ∃ (w : World) (names : List Name) (sched : List Nat) (n : Name),
    ((reach w names sched).log.filter fun e => e.2 == n).length = 2 ∧ (reach w names sched).maxActive = 2

theorem factory_on_caller_thread : factory_on_caller_thread_statement := by
  intro w names sched τ n h
  exact ((inv_reach w names sched).log τ n h).2

theorem factory_never_for_fixed : factory_never_for_fixed_statement := by
  intro w names sched τ n h
  have hf := ((inv_reach w names sched).log τ n h).1
  exact ⟨hf, isFixed_false_isUtc hf⟩

/-- `order.Nodup` is not even needed: a second block of the same thread is a no-op -/
theorem factory_once_sequential_any_order (w : World) (names : List Name) (order : List Nat)
    (n : Name) :
    (((reach w names (sequentialSchedule order)).log.filter fun e => e.2 == n).length ≤ 1) ∧
    (reach w names (sequentialSchedule order)).maxActive ≤ 1 := by
  have Q := Quiet_sequential w order (Quiet_init names)
  exact ⟨Q.once n, Q.maxA⟩

theorem factory_once_sequential : factory_once_sequential_statement := by
  intro w names order n _
  exact factory_once_sequential_any_order w names order n

theorem cached_load : cached_load_statement := by
  intro w s τ t id h hp hu hl
  have e : step w s τ = setThread s τ { t with pc := .done (id != .utc) id } := by
    unfold step; rw [h]; simp only [hp, hu, hl, Bool.false_eq_true, if_false]
  rw [e]
  refine ⟨rfl, rfl, ?_⟩
  rw [threads_setThread _ τ h rfl, if_pos rfl]; rfl

theorem failed_stays_failed : failed_stays_failed_statement := by
  intro w s τ t h hp hu hl
  obtain ⟨a, _, c⟩ := cached_load w s τ t .utc h hp hu hl
  exact ⟨a, c⟩

theorem contract_counterexample : contract_counterexample_statement := by
  refine ⟨{ data := fun _ => none }, [[120], [120]], [0, 1, 0, 1], [120], ?_⟩
  decide +kernel

/-- the hypotheses of `cached_load` / `failed_stays_failed` are satisfiable: after thread 0 has
failed to load "x", thread 1 is at `.init` with the name cached as UTC -/
example : ∃ t, (reach { data := fun _ => none } [[120], [120]] [0, 0, 0, 0]).threads[1]? = some t ∧
    t.pc = .init ∧ isUtcName t.name = false ∧
    List.lookup t.name (reach { data := fun _ => none } [[120], [120]] [0, 0, 0, 0]).map = some .utc := by
  refine ⟨⟨[120], .init⟩, ?_⟩
  decide +kernel

/-- a non-trivial sequential schedule: the factory is consulted exactly once for "x" -/
example : ((reach { data := fun _ => none } [[120], [120], [121]] (sequentialSchedule [2, 0, 1])).log.filter
    fun e => e.2 == [120]).length = 1 := by decide +kernel

end Cctz.C20
