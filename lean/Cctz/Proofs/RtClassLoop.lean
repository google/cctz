/-
  C07Class helper proofs, parse side: the specifier loop on the text of a whole format of the class.
  Invariant: the format still to be read is spelled by the remaining items and the data is their
  text — each possibly with leading white space already skipped.
-/
import Cctz.Proofs.RtClassConv

namespace Cctz.Rtc
open Cctz Cctz.Bytes Cctz.Format Cctz.Parse Cctz.Spec Cctz.Spec.Lex Cctz.Pa Cctz.Wr Cctz.Rt

variable {al : Tz.AbsLookup} {t fs : Int}

/-! ### the text of items -/

theorem renderAll_cons (it : Item) (l : List Item) :
    renderAll al t fs (it :: l) = renderItem al t fs it ++ renderAll al t fs l := by
  simp [renderAll]

theorem spellAll_cons (it : Item) (l : List Item) : spellAll (it :: l) = spell it ++ spellAll l := by
  simp [spellAll]

theorem renderItem_head (E : Env al t fs) (b : Item) (hv : b.valid) :
    NoNul (renderItem al t fs b) ∧
    ∃ c r, renderItem al t fs b = c :: r ∧ (b.mayStartDigit = false → isDigit c = false) ∧
      (b.isDot = false → c ≠ 46) ∧ (b.isColon = false → c ≠ 58) := by
  cases b with
  | lit c =>
    refine ⟨NoNul.cons hv.2 noNul_nil, c, [], rfl, fun h => h, fun h => ?_, fun h => ?_⟩
    · simpa [Item.isDot] using h
    · simpa [Item.isColon] using h
  | pct => exact ⟨NoNul.cons (by decide) noNul_nil, 37, [], rfl, fun _ => by decide, fun _ => by decide,
      fun _ => by decide⟩
  | conv k =>
    obtain ⟨hn, c, r, e, h46, h58, _, hdg⟩ := rk_shape E k hv
    exact ⟨hn, c, r, e, hdg, fun _ => h46, fun _ => h58⟩

theorem noNul_flatMap {α : Type} (f : α → Bytes) (l : List α) (h : ∀ a ∈ l, NoNul (f a)) : NoNul (l.flatMap f) :=
  fun c hc => by
    obtain ⟨a, ha, hca⟩ := List.mem_flatMap.1 hc
    exact h a ha c hca

theorem noNul_renderAll (E : Env al t fs) (l : List Item) (hv : ∀ it ∈ l, it.valid) :
    NoNul (renderAll al t fs l) :=
  noNul_flatMap _ l fun it h => (renderItem_head E it (hv it h)).1

theorem noNul_spellAll (l : List Item) (hv : ∀ it ∈ l, it.valid) : NoNul (spellAll l) := by
  refine noNul_flatMap _ l fun it h => ?_
  have hd : ∀ n, NoNul (decNat n) := fun n => AllDigits.noNul (decNat_digits n)
  cases it with
  | lit c => exact NoNul.cons (hv _ h).2 noNul_nil
  | pct => exact NoNul.cons (by decide) (NoNul.cons (by decide) noNul_nil)
  | conv k =>
    refine NoNul.cons (by decide) ?_
    cases k with
    | secN n => exact NoNul.cons (by decide) ((hd n).append (NoNul.cons (by decide) noNul_nil))
    | fracN n => exact NoNul.cons (by decide) ((hd n).append (NoNul.cons (by decide) noNul_nil))
    | _ => intro c hc h0; subst h0; simp [spellC] at hc

theorem okAfter_sem (E : Env al t fs) (ws : Bool) (a : Item) (l : List Item) (hv : ∀ it ∈ l, it.valid)
    (h : okAfter ws a l = true) :
    (a.noDigitAfter ws = true → isDigit ((renderAll al t fs l).headD 0) = false) ∧
    (a.noDotAfter = true → (renderAll al t fs l).headD 0 ≠ 46) ∧
    (a.noColonAfter = true → (renderAll al t fs l).headD 0 ≠ 58) := by
  cases l with
  | nil => exact ⟨fun _ => rfl, fun _ => by simp [renderAll], fun _ => by simp [renderAll]⟩
  | cons b l =>
    obtain ⟨_, c, r, e, h1, h2, h3⟩ := renderItem_head E b (hv b (by simp))
    rw [renderAll_cons, e]
    simp only [okAfter, Bool.and_eq_true, Bool.not_eq_true', Bool.and_eq_false_iff] at h
    simp only [List.cons_append, List.headD_cons]
    exact ⟨fun ha => h1 (h.1.1.resolve_left (by simp [ha])), fun ha => h2 (h.1.2.resolve_left (by simp [ha])),
      fun ha => h3 (h.2.resolve_left (by simp [ha]))⟩

/-! ### one item -/

theorem step_item (sp : Strptime) (E : Env al t fs) (st : PState) (rest f' : Bytes) (it : Item) (hv : it.valid)
    (hns : it.isWs = false) (ws : Bool) (d : Bytes) (hf : st.fmt = spell it ++ f')
    (hd : d = renderItem al t fs it ++ rest ∨ (ws = true ∧ d = skipSpace (renderItem al t fs it ++ rest)))
    (hfd : it.noDigitAfter ws = true → isDigit (rest.headD 0) = false)
    (hfp : it.noDotAfter = true → rest.headD 0 ≠ 46) (hfc : it.noColonAfter = true → rest.headD 0 ≠ 58)
    (hmin : it.wholeMinutes = true → al.offset % 60 = 0)
    (hy4 : it.fourCharYear = true → -999 ≤ al.cs.y ∧ al.cs.y ≤ 9999) (hs : Stat fs st) :
    StepOK al t fs it st rest f' (stepSpec sp st d) := by
  cases it with
  | lit c =>
    have hd' : d = c :: rest := by
      rcases hd with h | ⟨_, h⟩
      · exact h
      · rw [h]; exact skipSpace_cons_ns _ _ hns
    rw [hd', stepSpec_lit sp st c rest f' hf hv.1 hns]
    exact stepOK_put [] rfl st rest f' hs _ _ _ hs.1 hs.2.1
  | pct =>
    have hd' : d = 37 :: rest := by
      rcases hd with h | ⟨_, h⟩
      · exact h
      · rw [h]; exact skipSpace_cons_ns _ _ (by decide)
    rw [hd', stepSpec_pct sp st rest f' hf]
    exact stepOK_put [] rfl st rest f' hs _ _ _ hs.1 hs.2.1
  | conv k => exact step_conv sp E st rest f' k hv ws d hf hd hfd hfp hfc hmin hy4 hs

/-! ### the invariant -/

/-- `ws`: white space may have been skipped in front of the remaining text / format -/
def Inv (al : Tz.AbsLookup) (t fs : Int) (ws : Bool) (st : PState) (l : List Item) : Prop :=
  ∃ d, st.data = some d ∧
    (d = renderAll al t fs l ∨ (ws = true ∧ d = skipSpace (renderAll al t fs l))) ∧
    (st.fmt = spellAll l ∨ (ws = true ∧ st.fmt = skipSpace (spellAll l) ∧ d = skipSpace (renderAll al t fs l)))

theorem hasFld_cons (it : Item) (l : List Item) (f : Fld) : hasFld (it :: l) f = (sets it f || hasFld l f) := by
  simp [hasFld]

def LoopEnd (al : Tz.AbsLookup) (t fs : Int) (l : List Item) (st st' : PState) : Prop :=
  (∃ d, st'.data = some d ∧ skipSpace d = []) ∧ Stat fs st' ∧
  (∀ f, (holdsF al t fs st f ∨ hasFld l f = true) → holdsF al t fs st' f) ∧
  (hasFld l .unix = false → st.sawPercentS = false → st'.sawPercentS = false)

theorem LoopEnd.cons {it : Item} {l : List Item} {st st1 st' : PState} {rest f' : Bytes}
    (hok : StepOK al t fs it st rest f' st1) (h : LoopEnd al t fs l st1 st') : LoopEnd al t fs (it :: l) st st' := by
  obtain ⟨h1, h2, h3, h4⟩ := h
  refine ⟨h1, h2, fun fld hfld => ?_, fun hu hs => ?_⟩
  · rw [hasFld_cons, Bool.or_eq_true] at hfld
    rcases hfld with h | h | h
    · exact h3 fld (Or.inl (hok.mono fld h))
    · exact h3 fld (Or.inl (hok.wrote fld (mem_carried.2 h)))
    · exact h3 fld (Or.inr h)
  · rw [hasFld_cons, Bool.or_eq_false_iff] at hu
    exact h4 hu.2 (hok.nounix hu.1 hs)

/-- a literal that takes no step of its own -/
theorem LoopEnd.cons_lit {c : UInt8} {l : List Item} {st st' : PState} (h : LoopEnd al t fs l st st') :
    LoopEnd al t fs (.lit c :: l) st st' := by
  have hs : ∀ f, hasFld (.lit c :: l) f = hasFld l f := fun f => by rw [hasFld_cons]; cases f <;> rfl
  exact ⟨h.1, h.2.1, fun f hf => h.2.2.1 f (by rwa [hs] at hf), fun hu => h.2.2.2 (by rwa [hs] at hu)⟩

/-- the hypotheses under which the conversions that are exact only sometimes are exact -/
def CondOK (al : Tz.AbsLookup) (l : List Item) : Prop :=
  ∀ it ∈ l, (it.wholeMinutes = true → al.offset % 60 = 0) ∧
    (it.fourCharYear = true → -999 ≤ al.cs.y ∧ al.cs.y ≤ 9999)

theorem loop (sp : Strptime) (E : Env al t fs) : ∀ (l : List Item) (n : Nat) (st : PState) (ws : Bool),
    l.length ≤ n → (∀ it ∈ l, it.valid) → followOk ws l = true → CondOK al l → Inv al t fs ws st l →
    Stat fs st → LoopEnd al t fs l st (specLoop sp n st) := by
  intro l
  induction l with
  | nil =>
    intro n st ws _ _ _ _ hinv hst
    obtain ⟨d, hdata, hd, hfmt⟩ := hinv
    have hf : st.fmt = [] := by
      rcases hfmt with h | ⟨_, h, _⟩ <;> exact h
    have hd' : d = [] := by
      rcases hd with h | ⟨_, h⟩ <;> exact h
    rw [specLoop_done sp n st hf]
    exact ⟨⟨d, hdata, by rw [hd']; rfl⟩, hst, fun f h => by
      rcases h with h | h
      · exact h
      · simp [hasFld] at h, fun _ h => h⟩
  | cons it l ih =>
    intro n st ws hn hv hfol hcond hinv hst
    obtain ⟨d, hdata, hd, hfmt⟩ := hinv
    have hvl : ∀ x ∈ l, x.valid := fun x hx => hv x (by simp [hx])
    have hcl : CondOK al l := fun x hx => hcond x (by simp [hx])
    have hfol' : okAfter ws it l = true ∧ followOk it.isWs l = true := by
      simpa [followOk] using hfol
    rw [renderAll_cons] at hd
    rw [spellAll_cons] at hfmt
    cases n with
    | zero => simp at hn
    | succ n =>
    have hn' : l.length ≤ n := by simp at hn; omega
    by_cases hws : it.isWs = true
    · -- white space in the format: all white space of the text is skipped, and that of the format
      obtain ⟨c, rfl⟩ : ∃ c, it = .lit c := by
        cases it with
        | lit c => exact ⟨c, rfl⟩
        | pct => cases hws
        | conv k => cases hws
      have hsp : isSpace c = true := hws
      rw [hws] at hfol'
      change (d = c :: renderAll al t fs l ∨ (ws = true ∧ d = skipSpace (c :: renderAll al t fs l))) at hd
      change (st.fmt = c :: spellAll l ∨ (ws = true ∧ st.fmt = skipSpace (c :: spellAll l) ∧
        d = skipSpace (c :: renderAll al t fs l))) at hfmt
      rcases hfmt with hf | ⟨_, hf, hd2⟩
      · rw [specLoop_step sp n st d hdata (by rw [hf]; simp), stepSpec_ws sp st c d _ hf hsp]
        refine LoopEnd.cons (stepOK_put [] rfl st _ _ hst _ _ _ hst.1 hst.2.1)
          (ih n _ true hn' hvl hfol'.2 hcl ⟨skipSpace d, rfl, Or.inr ⟨rfl, ?_⟩, Or.inr ⟨rfl, rfl, ?_⟩⟩ hst)
        all_goals
          rcases hd with h | ⟨_, h⟩
          · rw [h, skipSpace_cons_sp _ _ hsp]
          · rw [h, skipSpace_cons_sp _ _ hsp, skipSpace_idem]
      · -- the format's white space went with the white space before it
        rw [skipSpace_cons_sp _ _ hsp] at hd2 hf
        exact LoopEnd.cons_lit
          (ih (n + 1) st true (by omega) hvl hfol'.2 hcl ⟨d, hdata, Or.inr ⟨rfl, hd2⟩, Or.inr ⟨rfl, hf, hd2⟩⟩ hst)
    · have hns : it.isWs = false := by simpa using hws
      rw [hns] at hfol'
      obtain ⟨c, r, hc, hcs⟩ : ∃ c r, spell it = c :: r ∧ isSpace c = false := by
        cases it with
        | lit c => exact ⟨c, [], rfl, hns⟩
        | pct => exact ⟨37, [37], rfl, by decide⟩
        | conv k => exact ⟨37, spellC k, rfl, by decide⟩
      have hf : st.fmt = spell it ++ spellAll l := by
        rcases hfmt with h | ⟨_, h, _⟩
        · exact h
        · rw [h, skipSpace_append_ns _ _ c r hc hcs]
      obtain ⟨f1, f2, f3⟩ := okAfter_sem E ws it l hvl hfol'.1
      obtain ⟨c1, c2⟩ := hcond it (by simp)
      have hok := step_item sp E st _ _ it (hv it (by simp)) hns ws d hf hd f1 f2 f3 c1 c2 hst
      rw [specLoop_step sp n st d hdata (by rw [hf, hc]; simp)]
      exact LoopEnd.cons hok
        (ih n _ false hn' hvl hfol'.2 hcl ⟨_, hok.data, Or.inl rfl, Or.inl hok.fmt⟩ hok.stat)

end Cctz.Rtc
