/-
  Sanity of the trusted specification: the closed form `Spec.dayNum` agrees with the schoolbook
  successor `Spec.nextDay` on every valid date, and is anchored at 1970-01-01 ↦ 0.
-/
import Cctz.Proofs.Calendar

namespace Cctz
open Cctz.Spec

theorem dayNum_nextDay (y m d : Int) (v : ValidDate y m d) :
    let (y', m', d') := nextDay y m d
    dayNum y' m' d' = dayNum y m d + 1 := by
  obtain ⟨h1, h2, h3, h4⟩ := v
  unfold nextDay
  by_cases hd : d < daysInMonth y m
  · simp only [hd, if_true]
    exact dayNum_linear y m d 1
  · by_cases hm : m < 12
    · simp only [hd, hm, if_true, if_false]
      have := dayNum_add_month y m 1 h1 hm
      have := dayNum_eq_first y m d
      omega
    · simp only [hd, hm, if_false]
      have hm : m = 12 := by omega
      subst hm
      have := dayNum_add_month_dec y 1
      have := dayNum_eq_first y 12 d
      omega

theorem validDate_nextDay (y m d : Int) (v : ValidDate y m d) :
    let (y', m', d') := nextDay y m d
    ValidDate y' m' d' := by
  obtain ⟨h1, h2, h3, h4⟩ := v
  unfold nextDay
  by_cases hd : d < daysInMonth y m
  · simp only [hd, if_true]
    exact ⟨h1, h2, by omega, by omega⟩
  · by_cases hm : m < 12
    · simp only [hd, hm, if_true, if_false]
      have := daysInMonth_pos y (m + 1)
      exact ⟨by omega, by omega, by omega, by omega⟩
    · simp only [hd, hm, if_false]
      have := daysInMonth_pos (y + 1) 1
      exact ⟨by omega, by omega, by omega, by omega⟩

theorem dayNum_anchor : dayNum 1970 1 1 = 0 ∧ weekdayOfDay 0 = 3 := by decide

example : ValidDate 2024 2 29 := by decide
example : nextDay 2024 2 29 = (2024, 3, 1) := by decide
example : nextDay 2023 12 31 = (2024, 1, 1) := by decide

end Cctz
