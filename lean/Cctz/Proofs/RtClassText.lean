/-
  C07Class helper proofs: what the texts of the class are made of — white space, digit strings, the
  fraction and the offset in the terms the parse-side lemmas use — and the hypotheses on the instant.
-/
import Cctz.Proofs.RtClassDefs
import Cctz.Proofs.RtClassNum
import Cctz.Proofs.WrLoop
import Cctz.Proofs.FmRender
import Cctz.Proofs.LexRender

namespace Cctz.Rtc
open Cctz Cctz.Bytes Cctz.Format Cctz.Parse Cctz.Spec Cctz.Spec.Lex Cctz.Pa Cctz.Wr

/-- the hypotheses of the round trip on what lookup() reported -/
structure Env (al : Tz.AbsLookup) (t fs : Int) : Prop where
  valid : Valid al.cs
  yr : inI64 al.cs.y
  off1 : -86400 < al.offset
  off2 : al.offset < 86400
  tr : inI64 t
  fs0 : 0 ≤ fs
  fs1 : fs < 1000000000000000

theorem Env.bounds {al : Tz.AbsLookup} {t fs : Int} (E : Env al t fs) :
    1 ≤ al.cs.m ∧ al.cs.m ≤ 12 ∧ 1 ≤ al.cs.d ∧ al.cs.d ≤ 31 ∧ 0 ≤ al.cs.hh ∧ al.cs.hh ≤ 23 ∧
    0 ≤ al.cs.mm ∧ al.cs.mm ≤ 59 ∧ 0 ≤ al.cs.ss ∧ al.cs.ss ≤ 59 := by
  obtain ⟨hm1, hm2, hd1, hd2, hh1, hh2, hmm1, hmm2, hs1, hs2⟩ := E.valid
  have hdb := daysInMonth_pos al.cs.y al.cs.m
  exact ⟨hm1, hm2, hd1, by omega, hh1, hh2, hmm1, hmm2, hs1, hs2⟩

/-! ### white space -/

theorem skipSpace_cons_ns (c : UInt8) (r : Bytes) (h : isSpace c = false) : skipSpace (c :: r) = c :: r := by
  unfold skipSpace; rw [List.dropWhile_cons]; simp [h]

theorem skipSpace_cons_sp (c : UInt8) (r : Bytes) (h : isSpace c = true) : skipSpace (c :: r) = skipSpace r := by
  unfold skipSpace; rw [List.dropWhile_cons]; simp [h]

theorem skipSpace_append_ns (b rest : Bytes) (c : UInt8) (r : Bytes) (e : b = c :: r) (hc : isSpace c = false) :
    skipSpace (b ++ rest) = b ++ rest := by
  rw [e, List.cons_append, skipSpace_cons_ns _ _ hc]

theorem skipSpace_idem (d : Bytes) : skipSpace (skipSpace d) = skipSpace d := by
  induction d with
  | nil => rfl
  | cons c r ih =>
    by_cases h : isSpace c = true
    · rw [skipSpace_cons_sp c r h, ih]
    · have h' : isSpace c = false := by simpa using h
      rw [skipSpace_cons_ns c r h', skipSpace_cons_ns c r h']

theorem skipSpace_nil : skipSpace [] = [] := rfl

/-! ### digits -/

def AllDigits (l : Bytes) : Prop := ∀ c ∈ l, isDigit c = true

theorem AllDigits.noNul {l : Bytes} (h : AllDigits l) : NoNul l := fun c hc => digit_ne_zero c (h c hc)

theorem AllDigits.append {a b : Bytes} (ha : AllDigits a) (hb : AllDigits b) : AllDigits (a ++ b) := by
  intro c hc
  rcases List.mem_append.1 hc with h | h
  · exact ha c h
  · exact hb c h

theorem AllDigits.head {l : Bytes} (h : AllDigits l) (hne : l ≠ []) :
    ∃ c r, l = c :: r ∧ isDigit c = true := by
  cases l with
  | nil => exact absurd rfl hne
  | cons c r => exact ⟨c, r, rfl, h c (by simp)⟩

theorem allDigits_zeros (k : Nat) : AllDigits (List.replicate k 48) := by
  intro c hc
  rw [List.mem_replicate] at hc
  rw [hc.2]; decide

theorem allDigits_decPad (w n : Nat) : AllDigits (decPad w n) :=
  (allDigits_zeros _).append (decNat_digits n)

theorem allDigits_two_nat (n : Nat) (h : n ≤ 99) : AllDigits (decPad 2 n) := allDigits_decPad 2 n

theorem decPad_ne_nil (w n : Nat) : decPad w n ≠ [] := fun h =>
  decNat_ne_nil n (List.append_eq_nil_iff.1 h).2

theorem decPad_props (w n : Nat) (hw : 0 < w) (hn : n < 10 ^ w) :
    (decPad w n).length = w ∧ nv 0 (decPad w n) = n := by
  refine ⟨Fm.decPad_length_of_lt w n hw hn, ?_⟩
  unfold decPad
  rw [nv_append, nv_replicate_zero, Int.zero_mul, nv_decNat]

theorem two_eq (v : Int) (h0 : 0 ≤ v) (h1 : v ≤ 99) : decPad 2 v.toNat = (format02d v).val :=
  (Fm.format02d_spec v h0 h1).2.symm

/-! ### fractions -/

theorem frac_ge15 (n : Nat) (fs : Int) (hn : 15 ≤ n) :
    Lex.frac n fs = decPad 15 fs.toNat ++ List.replicate (min n 18 - 15) 48 := by
  unfold Lex.frac
  simp only
  by_cases h : min n 18 ≤ 15
  · have : min n 18 = 15 := by omega
    rw [if_pos h, this]
    simp [fracDigits]
  · rw [if_neg h]

theorem allDigits_frac (n : Nat) (fs : Int) (hn : 15 ≤ n) : AllDigits (Lex.frac n fs) := by
  rw [frac_ge15 n fs hn]
  exact (allDigits_decPad _ _).append (allDigits_zeros _)

theorem frac_ne_nil (n : Nat) (fs : Int) (hn : 15 ≤ n) : Lex.frac n fs ≠ [] := by
  rw [frac_ge15 n fs hn]
  exact fun h => decPad_ne_nil _ _ (List.append_eq_nil_iff.1 h).1

/-- the text of `%E*f` -/
def starFText (fs : Int) : Bytes := if fracStar fs = [] then [48] else fracStar fs

theorem allDigits_starF (fs : Int) (h0 : 0 ≤ fs) (h1 : fs < 1000000000000000) : AllDigits (starFText fs) := by
  unfold starFText
  split
  · exact allDigits_zeros 1
  · exact fracStar_digits fs h0 h1

theorem starF_ne_nil (fs : Int) : starFText fs ≠ [] := by
  unfold starFText
  split
  · simp
  · assumption

/-! ### the offset -/

theorem offHMS_eq (off : Int) (h1 : -86400 < off) (h2 : off < 86400) :
    offHMS off = (formatOffset off [58, 42]).val :=
  (Fm.formatOffset_val off (by omega) (by omega)).2.2.1.symm

end Cctz.Rtc
