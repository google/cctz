/-
  C07 (continued) — the whole-string round trip for the canonical lossless format
  "%Y-%m-%d%ET%H:%M:%E*S%E*z" (RFC 3339 with full-resolution seconds and offset), and
  C18's rendering clause: fractional-second fields are truncated, never rounded.
-/
import Cctz.Model.Parse
import Cctz.Spec.FormatSpec
import Cctz.Spec.TableSem
import Cctz.Proofs.WrFormat
import Cctz.Proofs.RtClassMain

namespace Cctz.C07Whole
open Cctz Cctz.Bytes Cctz.Format Cctz.Parse Cctz.Spec

def fmtFull : Bytes := ofString "%Y-%m-%d%ET%H:%M:%E*S%E*z"

/-- format then parse returns the original instant and femtoseconds: for every lookup result that
shows the civil second of instant `t` under an offset strictly inside ±24 h (what `lookup(t)`
reports in any zone — theorem C01), every femtosecond remainder, any strftime/strptime, and ANY
zone handed to parse (the offset in the text decides) -/
def full_roundtrip_statement : Prop :=
  ∀ (al : Tz.AbsLookup) (t fs : Int) (z' : Tz.Zone) (sf : Strftime) (sp : Strptime),
    Valid al.cs → secNum al.cs = t + al.offset → -86400 < al.offset → al.offset < 86400 →
    inI64 t → i64min + 86400 ≤ t → t ≤ i64max - 86400 → 0 ≤ fs → fs < 1000000000000000 →
    let text := render sf (formatSegs fmtFull al t fs).val.1 (formatSegs fmtFull al t fs).val.2
    (parse sp fmtFull text z').val.1 = .ok t fs

/-- C18: `%E<n>f` renders the first n digits of the femtosecond remainder, truncated (n ≤ 15) -/
def frac_truncated_statement : Prop :=
  ∀ (n : Nat) (al : Tz.AbsLookup) (t fs : Int), 1 ≤ n → n ≤ 15 → 0 ≤ fs → fs < 1000000000000000 →
    let fmt := [37, 69] ++ decNat n ++ [102]      -- "%E<n>f"
    render (fun _ _ => []) (formatSegs fmt al t fs).val.1 (formatSegs fmt al t fs).val.2 = fracDigits n fs

/-- … and `%E*f` / `%E*S` render it with trailing zeros removed, i.e. exactly (no rounding at all) -/
def frac_star_statement : Prop :=
  ∀ (al : Tz.AbsLookup) (t fs : Int), 0 ≤ fs → fs < 1000000000000000 →
    render (fun _ _ => []) (formatSegs (ofString "%E*f") al t fs).val.1 (formatSegs (ofString "%E*f") al t fs).val.2
      = (if fracStar fs = [] then [48] else fracStar fs)

/-! ## Proofs (the round trip is the instance of C07Class at this format: `Cctz/Proofs/WrWhole.lean`; the
fraction renderings in `Cctz/Proofs/WrFormat.lean`) -/

theorem frac_star : frac_star_statement := by
  intro al t fs h0 _
  exact Wr.starf_render al t fs h0

/-! hypotheses satisfiable: 0.25 s renders "25", nothing renders "0" -/
example : (0 : Int) ≤ 250000000000000 ∧ (250000000000000 : Int) < 1000000000000000 ∧
    (if fracStar 250000000000000 = [] then [48] else fracStar 250000000000000) = ofString "25" ∧
    (if fracStar 0 = [] then [48] else fracStar 0) = ofString "0" := by decide +kernel

theorem frac_truncated : frac_truncated_statement := by
  intro n al t fs hn1 hn h0 _
  refine (Wr.Enf_render n al t fs hn1 (by omega) h0).trans ?_
  unfold Lex.frac
  rw [show min n 18 = n by omega]
  exact if_pos hn

/-! hypotheses satisfiable: 0.999999999999999 s with three digits is "999", not "1000" -/
example : 1 ≤ 3 ∧ 3 ≤ 15 ∧ (0 : Int) ≤ 999999999999999 ∧ (999999999999999 : Int) < 1000000000000000 ∧
    fracDigits 3 999999999999999 = ofString "999" := by decide +kernel

theorem full_roundtrip : full_roundtrip_statement := by
  intro al t fs z' sf sp hv hsec ho1 ho2 _ ht1 ht2 h0 h1
  exact Wr.full_roundtrip al t fs z' sf sp hv hsec ho1 ho2 ht1 ht2 h0 h1

/-! hypotheses satisfiable: 2024-02-29 23:59:58.5 at UTC-03:30:15 is the instant 1709263813; the text
is "2024-02-29T23:59:58.5-03:30:15" and parse (in any zone; here an empty table) reads it back -/
example : Valid ⟨2024, 2, 29, 23, 59, 58⟩ ∧ secNum ⟨2024, 2, 29, 23, 59, 58⟩ = 1709263813 + -12615 ∧
    (-86400 : Int) < -12615 ∧ (-12615 : Int) < 86400 ∧ inI64 1709263813 ∧ i64min + 86400 ≤ 1709263813 ∧
    (1709263813 : Int) ≤ i64max - 86400 ∧ (0 : Int) ≤ 500000000000000 ∧ (500000000000000 : Int) < 1000000000000000 := by
  decide +kernel
example :
    let al : Tz.AbsLookup := ⟨⟨2024, 2, 29, 23, 59, 58⟩, -12615, false, ofString "X"⟩
    let text := render (fun _ _ => []) (formatSegs fmtFull al 1709263813 500000000000000).val.1
      (formatSegs fmtFull al 1709263813 500000000000000).val.2
    text = ofString "2024-02-29T23:59:58.5-03:30:15" ∧
    (parse (fun _ _ _ => none) fmtFull text {}).val.1 = .ok 1709263813 500000000000000 := by
  simp only [fmtFull, ofString_eq]; decide +kernel

end Cctz.C07Whole
