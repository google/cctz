/-
  C14 helper proofs: the hint of `MakeTime` only short-cuts the binary search (for `BreakTime` see
  `Tl.breakTimeCore_char`, `Tl.breakTime_hint`): the index found is the partition point of the civil
  column whatever the hint, so the same transition is used and the same computation (answer and
  flags) is carried out; hence call histories are irrelevant.
-/
import Cctz.Model.Tz
import Cctz.Spec.TableSem
import Cctz.Proofs.TableLookup
import Cctz.Proofs.TcMake

namespace Cctz.Tb
open Cctz Cctz.Tz Cctz.Spec

theorem ite_fst {c : Prop} [Decidable c] (x y : α × β) :
    (if c then x else y).1 = if c then x.1 else y.1 := by split <;> rfl

/-- a computation that takes a hint and returns the new one beside its answer, but whose answer
and flags do not depend on the hint -/
def HintFree (A : Nat → Ck (α × Nat)) : Prop :=
  ∀ h h', (A h).val.1 = (A h').val.1 ∧ (A h).flags = (A h').flags

theorem HintFree.bind {A : Nat → Ck (α × Nat)} {F : α → Nat → Ck (β × Nat)} (hA : HintFree A)
    (hF : ∀ a, HintFree (F a)) : HintFree fun h => A h >>= fun x => F x.1 x.2 := by
  intro h h'
  simp only [Ck.bind_val, Ck.bind_flags]
  rw [(hA h h').1, (hA h h').2, (hF _ (A h).val.2 (A h').val.2).1, (hF _ (A h).val.2 (A h').val.2).2]
  exact ⟨rfl, rfl⟩

theorem answerAt_hint (z : Zone) (first last : Transition) (cs : Fields) (tr : Nat) :
    HintFree (Tc.answerAt z cs first last tr) := by
  intro h1 h2
  unfold Tc.answerAt Tc.headAns Tc.tailAns Tc.uniqueAns Tc.inlAns
  simp only [Ck.bind_val, Ck.bind_flags, Ck.pure_val, Ck.pure_flags, Ck.ite_val, Ck.ite_flags, ite_fst]
  exact ⟨trivial, trivial⟩

/-- the search phase finds the partition point of the civil column whatever the hint
(`Tc.findTr_split`), and partition points are unique -/
theorem makeTimeCore_hint {z : Zone} (wf : TableWF z) (cso : CivilSorted z) (cs : Fields) :
    HintFree fun h => makeTimeCore z h cs := by
  have hn := wf.nonempty
  simp only [Tc.makeTimeCore_eq, getTrans_eq z 0 hn, getTrans_eq z (z.transitions.size - 1) (by omega),
    pure_bind_ck]
  refine HintFree.bind (fun h h' => ⟨?_, ?_⟩) (answerAt_hint z _ _ cs)
  · exact isSplit_unique (Tc.findTr_split z h cs hn (civilSorted_mono cso cs))
      (Tc.findTr_split z h' cs hn (civilSorted_mono cso cs))
  · rw [Tc.findTr_flags, Tc.findTr_flags]

/-- the second stage of the `TimeLocal` path of `makeTime` -/
def mtShift2 (shift : Int) (r2 : CivilLookup ⊕ Int) (h2 : Nat) : Ck (CivilLookup × Nat) :=
  match r2 with
  | .inl cl => do
    let cl' ← timeLocalShift cl shift
    pure (cl', h2)
  | .inr _ => ⟨(mkUnique 0, h2), flagFuel⟩

/-- what `makeTime` does with the result of the first `makeTimeCore` -/
def mtCont (z : Zone) (cs : Fields) (r : CivilLookup ⊕ Int) (h : Nat) : Ck (CivilLookup × Nat) :=
  match r with
  | .inl cl => pure (cl, h)
  | .inr shift => do
    let m ← chk64 (shift * -400)
    let cs' ← yearShift cs m
    let x ← makeTimeCore z h cs'
    mtShift2 shift x.1 x.2

theorem makeTime_hint {z : Zone} (wf : TableWF z) (cso : CivilSorted z) (cs : Fields) :
    HintFree fun h => makeTime z h cs := by
  show HintFree fun h => makeTimeCore z h cs >>= fun x => mtCont z cs x.1 x.2
  refine (makeTimeCore_hint wf cso cs).bind fun r => ?_
  cases r with
  | inl cl => exact fun _ _ => ⟨rfl, rfl⟩
  | inr shift =>
    intro h1 h2
    have e := ((makeTimeCore_hint wf cso (yearShift cs (chk64 (shift * -400)).val).val).bind
      (F := mtShift2 shift) fun r => by cases r <;> exact fun _ _ => ⟨rfl, rfl⟩) h1 h2
    simp only [Ck.bind_val, Ck.bind_flags] at e
    unfold mtCont
    simp only [Ck.bind_val, Ck.bind_flags]
    rw [e.1, e.2]
    exact ⟨rfl, rfl⟩

theorem convert_hint {z : Zone} (wf : TableWF z) (cso : CivilSorted z) (h h' : Nat) (cs : Fields) :
    (convert z h cs).val.1 = (convert z h' cs).val.1 := by
  unfold convert
  simp only [Ck.bind_val, Ck.pure_val]
  rw [(makeTime_hint wf cso cs h h').1]

theorem stepCall_answer {z : Zone} (wf : TableWF z) (cso : CivilSorted z) (h : Nat × Nat) (c : Call) :
    (stepCall z h c).1 = stateless z c := by
  cases c with
  | lookupT t =>
    show Answer.abs (breakTime z h.1 t).val.1 = Answer.abs (breakTime z 0 t).val.1
    rw [(Tl.breakTime_hint wf h.1 0 t).1]
  | lookupC cs =>
    show Answer.civ (makeTime z h.2 cs).val.1 = Answer.civ (makeTime z 0 cs).val.1
    rw [(makeTime_hint wf cso cs h.2 0).1]

theorem runCalls_stateless {z : Zone} (wf : TableWF z) (cso : CivilSorted z) (calls : List Call) :
    ∀ h : Nat × Nat, runCalls z h calls = calls.map (stateless z) := by
  induction calls with
  | nil => intro h; rfl
  | cons c cs ih =>
    intro h
    show (stepCall z h c).1 :: runCalls z (stepCall z h c).2 cs = stateless z c :: cs.map (stateless z)
    rw [stepCall_answer wf cso h c, ih]

end Cctz.Tb
