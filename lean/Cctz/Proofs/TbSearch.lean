/-
  Order and search lemmas for the zone-table queries:
  * `Civil.lt` is a strict total order on `Fields`;
  * the four model searches (`upperBoundTime`, `upperBoundTimeFrom`, `lowerBoundTimeFrom`,
    `upperBoundCivil`) are one bisection `bisect`, which on a monotone predicate returns the
    partition point (`IsSplit`), and a partition point is unique.
-/
import Cctz.Model.Tz
import Cctz.Spec.TableSem
import Cctz.Proofs.TcSeg

namespace Cctz.Tb
open Cctz Cctz.Tz Cctz.Spec

/-! ## `Civil.lt` is a strict total order -/

theorem lt_iff (a b : Fields) : Civil.lt a b = true ↔
    (a.y < b.y ∨ (a.y = b.y ∧ (a.m < b.m ∨ (a.m = b.m ∧ (a.d < b.d ∨ (a.d = b.d ∧
      (a.hh < b.hh ∨ (a.hh = b.hh ∧ (a.mm < b.mm ∨ (a.mm = b.mm ∧ a.ss < b.ss)))))))))) := by
  simp only [Civil.lt, Bool.or_eq_true, Bool.and_eq_true, decide_eq_true_eq, beq_iff_eq]

theorem fields_ext_iff (a b : Fields) :
    a = b ↔ a.y = b.y ∧ a.m = b.m ∧ a.d = b.d ∧ a.hh = b.hh ∧ a.mm = b.mm ∧ a.ss = b.ss := by
  cases a; cases b; simp only [Fields.mk.injEq]

/-- one level of a lexicographic comparison is transitive when the next level is -/
theorem lex_trans {a b c : Int} {P Q R : Prop} (pqr : P → Q → R) :
    (a < b ∨ a = b ∧ P) → (b < c ∨ b = c ∧ Q) → (a < c ∨ a = c ∧ R) := by
  rintro (h | ⟨h, p⟩) (h' | ⟨h', q⟩)
  · exact .inl (by omega)
  · exact .inl (by omega)
  · exact .inl (by omega)
  · exact .inr ⟨by omega, pqr p q⟩

theorem lex_total {a b : Int} {P E P' : Prop} (h : P ∨ E ∨ P') :
    (a < b ∨ a = b ∧ P) ∨ (a = b ∧ E) ∨ (b < a ∨ b = a ∧ P') := by
  rcases Int.lt_trichotomy a b with h1 | h1 | h1
  · exact .inl (.inl h1)
  · rcases h with h | h | h
    · exact .inl (.inr ⟨h1, h⟩)
    · exact .inr (.inl ⟨h1, h⟩)
    · exact .inr (.inr (.inr ⟨h1.symm, h⟩))
  · exact .inr (.inr (.inl h1))

theorem lt_irrefl (a : Fields) : Civil.lt a a = false := by
  rw [← Bool.not_eq_true, lt_iff]; omega

theorem lt_trans {a b c : Fields} (h1 : Civil.lt a b = true) (h2 : Civil.lt b c = true) :
    Civil.lt a c = true := by
  rw [lt_iff] at *
  exact lex_trans (lex_trans (lex_trans (lex_trans (lex_trans Int.lt_trans)))) h1 h2

theorem lt_asymm {a b : Fields} (h1 : Civil.lt a b = true) : Civil.lt b a = false := by
  cases h : Civil.lt b a with
  | false => rfl
  | true => rw [← lt_irrefl a, ← lt_trans h1 h]

theorem lt_trichotomy (a b : Fields) : Civil.lt a b = true ∨ a = b ∨ Civil.lt b a = true := by
  rw [lt_iff, lt_iff, fields_ext_iff]
  exact lex_total (lex_total (lex_total (lex_total (lex_total (Int.lt_trichotomy _ _)))))

theorem eq_iff_eq (a b : Fields) : Civil.eq a b = true ↔ a = b := by
  rw [fields_ext_iff]
  simp only [Civil.eq, Bool.and_eq_true, beq_iff_eq, and_assoc]

theorem le_iff (a b : Fields) : Civil.le a b = true ↔ Civil.lt a b = true ∨ a = b := by
  unfold Civil.le
  rcases lt_trichotomy a b with h | h | h
  · simp only [h, lt_asymm h, Bool.not_false, true_or]
  · subst h; simp only [lt_irrefl, Bool.not_false, or_true]
  · have hne : a ≠ b := fun e => by subst e; rw [lt_irrefl] at h; cases h
    simp only [h, lt_asymm h, hne, Bool.not_true, or_self, Bool.false_eq_true]

theorem le_of_not_lt {a b : Fields} (h : Civil.lt b a = false) : Civil.le a b = true := by
  simp [Civil.le, h]

theorem lt_of_le_of_lt {a b c : Fields} (h1 : Civil.le a b = true) (h2 : Civil.lt b c = true) :
    Civil.lt a c = true := by
  rcases (le_iff a b).1 h1 with h | h
  · exact lt_trans h h2
  · subst h; exact h2

/-- bisection on `[lo, hi)` for the first index where `p` holds -/
def bisect (p : Nat → Bool) (lo hi : Nat) : Nat → Nat
  | 0 => lo
  | fuel + 1 =>
    if lo < hi then
      let mid := lo + (hi - lo) / 2
      if p mid then bisect p lo mid fuel else bisect p (mid + 1) hi fuel
    else lo

/-- `k` splits `[lo, hi)` into a `p`-false part and a `p`-true part -/
def IsSplit (p : Nat → Bool) (lo hi k : Nat) : Prop :=
  lo ≤ k ∧ k ≤ hi ∧ (∀ i, lo ≤ i → i < k → p i = false) ∧ (∀ i, k ≤ i → i < hi → p i = true)

theorem bisect_spec (p : Nat → Bool) (fuel : Nat) : ∀ (lo hi : Nat), lo ≤ hi → hi - lo < fuel →
    (∀ i j, lo ≤ i → i ≤ j → j < hi → p i = true → p j = true) →
    IsSplit p lo hi (bisect p lo hi fuel) := by
  induction fuel with
  | zero => intro lo hi _ hf; omega
  | succ n ih =>
    intro lo hi hle hf mono
    unfold bisect
    by_cases hlt : lo < hi
    · rw [if_pos hlt]
      have hm1 : lo ≤ lo + (hi - lo) / 2 := by omega
      have hm2 : lo + (hi - lo) / 2 < hi := by omega
      generalize lo + (hi - lo) / 2 = mid at *
      by_cases hp : p mid = true
      · rw [if_pos hp]
        obtain ⟨a, b, c, d⟩ :=
          ih lo mid hm1 (by omega) (fun i j h1 h2 h3 => mono i j h1 h2 (by omega))
        refine ⟨a, by omega, c, fun i h1 h2 => ?_⟩
        by_cases hi' : i < mid
        · exact d i h1 hi'
        · exact mono mid i hm1 (by omega) h2 hp
      · rw [if_neg hp]
        obtain ⟨a, b, c, d⟩ :=
          ih (mid + 1) hi (by omega) (by omega) (fun i j h1 h2 h3 => mono i j (by omega) h2 h3)
        refine ⟨by omega, b, fun i h1 h2 => ?_, d⟩
        by_cases hi' : mid + 1 ≤ i
        · exact c i hi' h2
        · cases hpi : p i with
          | false => rfl
          | true => exact absurd (mono i mid h1 (by omega) hm2 hpi) hp
    · rw [if_neg hlt]
      have : lo = hi := by omega
      subst this
      exact ⟨Nat.le_refl _, Nat.le_refl _, fun i h1 h2 => by omega, fun i h1 h2 => by omega⟩

theorem isSplit_unique {p : Nat → Bool} {lo hi k k' : Nat} (h : IsSplit p lo hi k)
    (h' : IsSplit p lo hi k') : k = k' := by
  obtain ⟨a, b, c, d⟩ := h
  obtain ⟨a', b', c', d'⟩ := h'
  rcases Nat.lt_trichotomy k k' with hlt | heq | hgt
  · have h1 := d k (Nat.le_refl _) (by omega)
    have h2 := c' k a hlt
    rw [h1] at h2; cases h2
  · exact heq
  · have h1 := d' k' (Nat.le_refl _) (by omega)
    have h2 := c k' a' hgt
    rw [h1] at h2; cases h2

section
variable {P : Nat → Prop} [DecidablePred P] {lo hi k i : Nat} (h : IsSplit (fun i => decide (P i)) lo hi k)
include h
theorem IsSplit.below (h1 : lo ≤ i) (h2 : i < k) : ¬ P i := of_decide_eq_false (h.2.2.1 i h1 h2)
theorem IsSplit.above (h1 : k ≤ i) (h2 : i < hi) : P i := of_decide_eq_true (h.2.2.2 i h1 h2)
end

/-! ## the model searches are instances of `bisect` -/

theorem upperBoundTime_go_eq (a : Array Transition) (t : Int) (fuel : Nat) : ∀ lo hi,
    upperBoundTime.go a t lo hi fuel =
      bisect (fun i => decide (t < (a[i]?.map (·.unixTime)).getD 0)) lo hi fuel := by
  induction fuel with
  | zero => intro lo hi; rfl
  | succ n ih =>
    intro lo hi
    unfold upperBoundTime.go bisect
    simp only [ih, decide_eq_true_eq]

theorem upperBoundTimeFrom_go_eq (a : Array Transition) (t : Int) (fuel : Nat) : ∀ lo hi,
    upperBoundTimeFrom.go a t lo hi fuel =
      bisect (fun i => decide (t < (a[i]?.map (·.unixTime)).getD 0)) lo hi fuel := by
  induction fuel with
  | zero => intro lo hi; rfl
  | succ n ih =>
    intro lo hi
    unfold upperBoundTimeFrom.go bisect
    simp only [ih, decide_eq_true_eq]

theorem lowerBoundTimeFrom_go_eq (a : Array Transition) (t : Int) (fuel : Nat) : ∀ lo hi,
    lowerBoundTimeFrom.go a t lo hi fuel =
      bisect (fun i => !decide ((a[i]?.map (·.unixTime)).getD 0 < t)) lo hi fuel := by
  induction fuel with
  | zero => intro lo hi; rfl
  | succ n ih =>
    intro lo hi
    unfold lowerBoundTimeFrom.go bisect
    simp only [ih, Bool.not_eq_true', decide_eq_false_iff_not, ite_not]

theorem upperBoundCivil_go_eq (a : Array Transition) (cs : Fields) (fuel : Nat) : ∀ lo hi,
    upperBoundCivil.go a cs lo hi fuel =
      bisect (fun i => Civil.lt cs ((a[i]?.map (·.civilSec)).getD epoch)) lo hi fuel := by
  induction fuel with
  | zero => intro lo hi; rfl
  | succ n ih =>
    intro lo hi
    unfold upperBoundCivil.go bisect
    simp only [ih]

/-! ## the searches on a well-formed table -/

theorem getTrans_eq (z : Zone) (i : Nat) (h : i < z.transitions.size) :
    getTrans z i = pure (trn z i) := by
  simp [getTrans, trn, Array.getD, h]

theorem pure_bind_ck (a : α) (f : α → Ck β) : ((pure a : Ck α) >>= f) = f a := by
  show Ck.mk (f a).val (Flags.none.or (f a).flags) = f a
  rw [Flags.none_or]

theorem getType_eq (z : Zone) (i : Nat) (h : i < z.types.size) :
    getType z i = pure (typ z i) := by
  simp [getType, typ, Array.getD, h]

theorem readTime_eq (z : Zone) (i : Nat) :
    (z.transitions[i]?.map (·.unixTime)).getD 0 = (trn z i).unixTime := by
  unfold trn
  rw [Array.getD_eq_getD_getElem?]
  cases z.transitions[i]? <;> rfl

theorem readCivil_eq (z : Zone) (i : Nat) (h : i < z.transitions.size) :
    (z.transitions[i]?.map (·.civilSec)).getD epoch = (trn z i).civilSec := by
  simp [trn, Array.getD, h]

theorem upperBoundTimeFrom_spec {z : Zone} (wf : TableWF z) (from' : Nat) (t : Int)
    (hf : from' ≤ z.transitions.size) :
    IsSplit (fun i => decide (t < (trn z i).unixTime)) from' z.transitions.size
      (upperBoundTimeFrom z.transitions from' t) := by
  unfold upperBoundTimeFrom
  rw [upperBoundTimeFrom_go_eq]
  simp only [readTime_eq]
  refine bisect_spec _ _ _ _ hf (by omega) fun i j _ hij hj h => ?_
  have : (trn z i).unixTime ≤ (trn z j).unixTime := Tc.timeOf_mono wf hij hj
  simp only [decide_eq_true_eq] at *
  omega

theorem upperBoundTime_eq_from (a : Array Transition) (t : Int) :
    upperBoundTime a t = upperBoundTimeFrom a 0 t := by
  unfold upperBoundTime upperBoundTimeFrom
  rw [upperBoundTime_go_eq, upperBoundTimeFrom_go_eq]

theorem upperBoundTime_spec {z : Zone} (wf : TableWF z) (t : Int) :
    IsSplit (fun i => decide (t < (trn z i).unixTime)) 0 z.transitions.size
      (upperBoundTime z.transitions t) := by
  rw [upperBoundTime_eq_from]
  exact upperBoundTimeFrom_spec wf 0 t (Nat.zero_le _)

theorem lowerBoundTimeFrom_spec {z : Zone} (wf : TableWF z) (from' : Nat) (t : Int)
    (hf : from' ≤ z.transitions.size) :
    IsSplit (fun i => decide (t ≤ (trn z i).unixTime)) from' z.transitions.size
      (lowerBoundTimeFrom z.transitions from' t) := by
  unfold lowerBoundTimeFrom
  rw [lowerBoundTimeFrom_go_eq]
  simp only [readTime_eq, ← Int.not_lt, decide_not]
  refine bisect_spec _ _ _ _ hf (by omega) fun i j _ hij hj h => ?_
  have : (trn z i).unixTime ≤ (trn z j).unixTime := Tc.timeOf_mono wf hij hj
  simp only [Bool.not_eq_true', decide_eq_false_iff_not] at *
  omega

/-- first index whose `civil_sec` is after `cs`, for a civil column on which "after `cs`" is
monotone (a sorted one in particular) -/
theorem upperBoundCivil_spec (z : Zone) (cs : Fields)
    (mono : ∀ i j, i ≤ j → j < z.transitions.size →
      Civil.lt cs (trn z i).civilSec = true → Civil.lt cs (trn z j).civilSec = true) :
    IsSplit (fun i => Civil.lt cs (trn z i).civilSec) 0 z.transitions.size
      (upperBoundCivil z.transitions cs) := by
  unfold upperBoundCivil
  rw [upperBoundCivil_go_eq]
  obtain ⟨a, b, c, d⟩ := bisect_spec
    (fun i => Civil.lt cs ((z.transitions[i]?.map (·.civilSec)).getD epoch))
    (z.transitions.size + 1) 0 z.transitions.size (Nat.zero_le _) (by omega) (fun i j _ hij hj h => by
      simp only [readCivil_eq z i (by omega), readCivil_eq z j hj] at h ⊢
      exact mono i j hij hj h)
  refine ⟨a, b, fun i h1 h2 => ?_, fun i h1 h2 => ?_⟩
  · simpa only [readCivil_eq z i (by omega)] using c i h1 h2
  · simpa only [readCivil_eq z i h2] using d i h1 h2

theorem civilSorted_mono {z : Zone} (cso : CivilSorted z) (cs : Fields) (i j : Nat) (hij : i ≤ j)
    (hj : j < z.transitions.size) (h : Civil.lt cs (trn z i).civilSec = true) :
    Civil.lt cs (trn z j).civilSec = true := by
  rcases Nat.lt_or_eq_of_le hij with h' | h'
  · exact lt_trans h (cso i j h' hj)
  · subst h'; exact h

end Cctz.Tb
