/-
  C17 helper proofs: get_weekday, get_yearday, next_weekday and prev_weekday against the
  calendar specification.
-/
import Cctz.Proofs.WdNDay

namespace Cctz.Wd
open Cctz.Spec

theorem monOff_lookup (k : Int) (h0 : 0 ≤ k) (h6 : k ≤ 6) :
    (getC Gen.kWeekdayByMonOff (k + 6) 0).ok ∧ (getC Gen.kWeekdayByMonOff (k + 6) 0).val = (k + 6) % 7 := by
  have : k = 0 ∨ k = 1 ∨ k = 2 ∨ k = 3 ∨ k = 4 ∨ k = 5 ∨ k = 6 := by omega
  rcases this with h | h | h | h | h | h | h <;> subst h <;> decide

/-- `kWeekdayOffsets[m]` is, modulo 7, the days before month `m` counted from March -/
theorem wdOffsets_lookup (m : Int) (h1 : 1 ≤ m) (h2 : m ≤ 12) :
    (getC Gen.kWeekdayOffsets m 0).ok ∧ 0 ≤ (getC Gen.kWeekdayOffsets m 0).val ∧
      (getC Gen.kWeekdayOffsets m 0).val ≤ 6 ∧
      (getC Gen.kWeekdayOffsets m 0).val % 7 = (cumDays m + b2i (decide (m < 3)) + 6) % 7 := by
  rcases month_cases h1 h2 with h | h | h | h | h | h | h | h | h | h | h | h <;> subst h <;> decide

theorem ydOffsets_lookup (m : Int) (h1 : 1 ≤ m) (h2 : m ≤ 12) :
    (getC Gen.kMonthOffsetsYd m 0).ok ∧ (getC Gen.kMonthOffsetsYd m 0).val = cumDays m := by
  rcases month_cases h1 h2 with h | h | h | h | h | h | h | h | h | h | h | h <;> subst h <;> decide

/-- the arithmetic heart of get_weekday on one 400-year cycle residue: `w` is the leap index of
`(r, m)` moved by six cycles, and `365 ≡ 1 (mod 7)` -/
theorem weekday_core (r m d off : Int)
    (hoff : off % 7 = (cumDays m + b2i (decide (m < 3)) + 6) % 7) :
    let w := 2400 + r - b2i (decide (m < 3))
    (w + leapsThrough w + (off + d)) % 7 = (dayNum r m d + 4) % 7 := by
  intro w
  have hs : r + b2i (decide (m > 2)) - 1 = w - 2400 := by
    simp only [w, b2i, decide_eq_true_eq]; split <;> split <;> omega
  have hl : leapsThrough (w - 2400) = leapsThrough w - 582 := by simp only [leapsThrough]; omega
  rw [dayNum_alt, hs, hl]
  omega

theorem getWeekday_correct (f : Fields) (hv : Valid f) :
    (Civil.getWeekday f).ok ∧ (Civil.getWeekday f).val = weekdayOfDay (dayNum f.y f.m f.d) := by
  obtain ⟨hm1, hm2, hd1, _⟩ := hv
  have hy := cdiv_cmod f.y 400
  have hr := cmod_range f.y (k := 400) (by decide)
  obtain ⟨ook, ho0, ho6, hoff⟩ := wdOffsets_lookup f.m hm1 hm2
  have hcore := weekday_core (cmod f.y 400) f.m f.d _ hoff
  have hday := dayNum_add_400_mul (cmod f.y 400) (cdiv f.y 400) f.m f.d
  rw [show cmod f.y 400 + 400 * cdiv f.y 400 = f.y by omega] at hday
  have hb : 0 ≤ b2i (decide (f.m < 3)) ∧ b2i (decide (f.m < 3)) ≤ 1 := by
    unfold b2i; split <;> omega
  simp only [Civil.getWeekday, Ck.bind_ok, Ck.bind_val]
  generalize hw : 2400 + cmod f.y 400 - b2i (decide (f.m < 3)) = w at hcore
  generalize (getC Gen.kWeekdayOffsets f.m 0).val = off at hcore ho0 ho6
  have hw0 : 1999 ≤ w := by omega
  rw [cdiv_of_nonneg 4 (by omega), cdiv_of_nonneg 100 (by omega), cdiv_of_nonneg 400 (by omega)]
  simp only [leapsThrough] at hcore
  have hL : 0 ≤ w / 4 - w / 100 + w / 400 := by omega
  generalize w / 4 - w / 100 + w / 400 = L at hcore hL ⊢
  rw [cmod_of_nonneg 7 (by omega)]
  have hk := monOff_lookup ((w + L + (off + f.d)) % 7) (by omega) (by omega)
  refine ⟨⟨ook, hk.1⟩, ?_⟩
  rw [hk.2, hday]
  unfold weekdayOfDay
  omega

theorem getYearday_correct (f : Fields) (hv : Valid f) :
    (Civil.getYearday f).ok ∧
    (Civil.getYearday f).val = dayNum f.y f.m f.d - dayNum f.y 1 1 + 1 ∧
    1 ≤ (Civil.getYearday f).val ∧ (Civil.getYearday f).val ≤ daysInYear f.y := by
  have hr := dayOfYear_range f.y f.m f.d (valid_date hv)
  obtain ⟨hok, hval⟩ := ydOffsets_lookup f.m hv.1 hv.2.1
  have h1 : daysBeforeMonth f.y 1 = 0 := by simp [daysBeforeMonth, cumDays]
  have hb : b2i (decide (f.m > 2) && isLeap f.y) = if f.m > 2 ∧ isLeap f.y = true then 1 else 0 := by
    simp only [b2i, Bool.and_eq_true, decide_eq_true_eq]
  simp only [Civil.getYearday, Ck.bind_ok, Ck.bind_val, Ck.pure_val, Ck.pure_ok, and_true,
    isLeapYear_eq, hb, dayNum, h1]
  simp only [daysBeforeMonth] at hr ⊢
  exact ⟨hok, by omega, by omega, by omega⟩

theorem weekday_sanity :
    weekdayOfDay (dayNum 1970 1 1) = 3 ∧ ∀ n : Int, weekdayOfDay (n + 1) = (weekdayOfDay n + 1) % 7 := by
  refine ⟨by decide, ?_⟩
  intro n; unfold weekdayOfDay; omega

theorem forw_walk (b w : Int) (hb0 : 0 ≤ b) (hb6 : b ≤ 6) (hw0 : 0 ≤ w) (hw6 : w ≤ 6) :
    (Civil.findFrom Gen.kWeekdaysForw b 0 15).ok ∧
    (Civil.findFrom Gen.kWeekdaysForw w ((Civil.findFrom Gen.kWeekdaysForw b 0 15).val.toNat + 1) 15).ok ∧
    (Civil.findFrom Gen.kWeekdaysForw w ((Civil.findFrom Gen.kWeekdaysForw b 0 15).val.toNat + 1) 15).val
      - (Civil.findFrom Gen.kWeekdaysForw b 0 15).val = (w - b + 6) % 7 + 1 := by
  have h1 : b = 0 ∨ b = 1 ∨ b = 2 ∨ b = 3 ∨ b = 4 ∨ b = 5 ∨ b = 6 := by omega
  have h2 : w = 0 ∨ w = 1 ∨ w = 2 ∨ w = 3 ∨ w = 4 ∨ w = 5 ∨ w = 6 := by omega
  rcases h1 with h | h | h | h | h | h | h <;> subst h <;>
    rcases h2 with h | h | h | h | h | h | h <;> subst h <;> decide

theorem back_walk (b w : Int) (hb0 : 0 ≤ b) (hb6 : b ≤ 6) (hw0 : 0 ≤ w) (hw6 : w ≤ 6) :
    (Civil.findFrom Gen.kWeekdaysBack b 0 15).ok ∧
    (Civil.findFrom Gen.kWeekdaysBack w ((Civil.findFrom Gen.kWeekdaysBack b 0 15).val.toNat + 1) 15).ok ∧
    (Civil.findFrom Gen.kWeekdaysBack w ((Civil.findFrom Gen.kWeekdaysBack b 0 15).val.toNat + 1) 15).val
      - (Civil.findFrom Gen.kWeekdaysBack b 0 15).val = (b - w + 6) % 7 + 1 := by
  have h1 : b = 0 ∨ b = 1 ∨ b = 2 ∨ b = 3 ∨ b = 4 ∨ b = 5 ∨ b = 6 := by omega
  have h2 : w = 0 ∨ w = 1 ∨ w = 2 ∨ w = 3 ∨ w = 4 ∨ w = 5 ∨ w = 6 := by omega
  rcases h1 with h | h | h | h | h | h | h <;> subst h <;>
    rcases h2 with h | h | h | h | h | h | h <;> subst h <;> decide

theorem weekdayOfDay_range (n : Int) : 0 ≤ weekdayOfDay n ∧ weekdayOfDay n ≤ 6 := by
  unfold weekdayOfDay; omega

theorem dayStep_holds (cd : Fields) (k : Int) (hv : Valid cd) :
    Holds (Civil.align .day <$> Civil.step .day cd k) (fun r =>
      Valid r ∧ Aligned .day r ∧ dayNum r.y r.m r.d = dayNum cd.y cd.m cd.d + k) := by
  obtain ⟨hm1, hm2, hd1, hd2, _⟩ := hv
  apply holds_map
  refine holds_mono (nDay_small cd.y cd.m cd.d k cd.hh cd.mm cd.ss hm1 hm2) ?_
  intro r ⟨h1, h2, h3, h4, h5, _⟩
  refine ⟨⟨h2, h3, h4, h5, ?_⟩, ⟨rfl, rfl, rfl⟩, h1⟩
  simp [Civil.align]

/-- next_weekday and prev_weekday are one walk: `σ = 1` forwards through `kWeekdaysForw`,
`σ = -1` backwards through `kWeekdaysBack`; `K` is the final day step -/
theorem weekdayWalk_holds (cd : Fields) (w σ : Int) (tbl : List Int) (K : Int → Ck Fields)
    (hv : Valid cd) (hw0 : 0 ≤ w) (hw6 : w ≤ 6) (hσ : σ = 1 ∨ σ = -1)
    (hwalk : ∀ b, 0 ≤ b → b ≤ 6 → (Civil.findFrom tbl b 0 15).ok ∧
      (Civil.findFrom tbl w ((Civil.findFrom tbl b 0 15).val.toNat + 1) 15).ok ∧
      (Civil.findFrom tbl w ((Civil.findFrom tbl b 0 15).val.toNat + 1) 15).val -
        (Civil.findFrom tbl b 0 15).val = (σ * (w - b) + 6) % 7 + 1)
    (hK : ∀ k, 1 ≤ k → k ≤ 7 → Holds (K k) (fun r =>
      Valid r ∧ Aligned .day r ∧ dayNum r.y r.m r.d = dayNum cd.y cd.m cd.d + σ * k)) :
    Holds (do
        let base ← Civil.getWeekday cd
        let i ← Civil.findFrom tbl base 0 15
        let j ← Civil.findFrom tbl w (i.toNat + 1) 15
        K (j - i)) (fun r =>
      Valid r ∧ Aligned .day r ∧
      ∃ k : Int, 1 ≤ k ∧ k ≤ 7 ∧ dayNum r.y r.m r.d = dayNum cd.y cd.m cd.d + σ * k ∧
        weekdayOfDay (dayNum cd.y cd.m cd.d + σ * k) = w ∧
        ∀ j : Int, 1 ≤ j → j < k → weekdayOfDay (dayNum cd.y cd.m cd.d + σ * j) ≠ w) := by
  obtain ⟨gok, gval⟩ := getWeekday_correct cd hv
  refine holds_bind (fun b => b = weekdayOfDay (dayNum cd.y cd.m cd.d)) ⟨safe_of_ok _ gok, gval⟩ ?_
  intro b hb
  have hbr := weekdayOfDay_range (dayNum cd.y cd.m cd.d)
  rw [← hb] at hbr
  obtain ⟨iok, jok, hji⟩ := hwalk b hbr.1 hbr.2
  refine holds_bind (· = (Civil.findFrom tbl b 0 15).val) ⟨safe_of_ok _ iok, rfl⟩ ?_
  intro i hi; subst hi
  refine holds_bind (· = (Civil.findFrom tbl w ((Civil.findFrom tbl b 0 15).val.toNat + 1) 15).val)
    ⟨safe_of_ok _ jok, rfl⟩ ?_
  intro j hj; subst hj
  rw [hji]
  refine holds_mono (hK _ (by omega) (by omega)) ?_
  intro r ⟨h1, h2, h3⟩
  refine ⟨h1, h2, _, by omega, by omega, h3, ?_, ?_⟩ <;> unfold weekdayOfDay at hb ⊢ <;>
    rcases hσ with rfl | rfl <;> omega

theorem nextWeekday_holds (cd : Fields) (w : Int) (hv : Valid cd) (hw0 : 0 ≤ w) (hw6 : w ≤ 6) :
    Holds (Civil.nextWeekday cd w) (fun r =>
      Valid r ∧ Aligned .day r ∧
      ∃ k : Int, 1 ≤ k ∧ k ≤ 7 ∧ dayNum r.y r.m r.d = dayNum cd.y cd.m cd.d + k ∧
        weekdayOfDay (dayNum cd.y cd.m cd.d + k) = w ∧
        ∀ j : Int, 1 ≤ j → j < k → weekdayOfDay (dayNum cd.y cd.m cd.d + j) ≠ w) := by
  have h := weekdayWalk_holds cd w 1 Gen.kWeekdaysForw (Civil.civilAdd .day cd) hv hw0 hw6
    (Or.inl rfl)
    (fun b h0 h6 => by obtain ⟨a, c, e⟩ := forw_walk b w h0 h6 hw0 hw6; exact ⟨a, c, by omega⟩)
    (fun k _ _ => by rw [Int.one_mul]; exact dayStep_holds cd k hv)
  unfold Civil.nextWeekday
  simpa only [Int.one_mul] using h

theorem prevWeekday_holds (cd : Fields) (w : Int) (hv : Valid cd) (hw0 : 0 ≤ w) (hw6 : w ≤ 6) :
    Holds (Civil.prevWeekday cd w) (fun r =>
      Valid r ∧ Aligned .day r ∧
      ∃ k : Int, 1 ≤ k ∧ k ≤ 7 ∧ dayNum r.y r.m r.d = dayNum cd.y cd.m cd.d - k ∧
        weekdayOfDay (dayNum cd.y cd.m cd.d - k) = w ∧
        ∀ j : Int, 1 ≤ j → j < k → weekdayOfDay (dayNum cd.y cd.m cd.d - j) ≠ w) := by
  have h := weekdayWalk_holds cd w (-1) Gen.kWeekdaysBack (Civil.civilSub .day cd) hv hw0 hw6
    (Or.inr rfl)
    (fun b h0 h6 => by obtain ⟨a, c, e⟩ := back_walk b w h0 h6 hw0 hw6; exact ⟨a, c, by omega⟩)
    (fun k h1 h7 => by
      unfold Civil.civilSub
      rw [if_pos (by rw [bne_iff_ne]; unfold i64min; omega), Int.neg_mul, Int.one_mul]
      exact holds_chk64_bind _ (dayStep_holds cd (-k) hv))
  unfold Civil.prevWeekday
  simpa only [Int.neg_mul, Int.one_mul, ← Int.sub_eq_add_neg] using h

end Cctz.Wd
