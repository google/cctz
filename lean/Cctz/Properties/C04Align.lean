/-
  C04 (continued) — conversions between alignments (`civil_day(cs)`, `civil_month(cd)`, …):
  consequences of `C04.align_spec` that callers rely on when they truncate civil times.

  * `align_monotone`  — truncation never reorders: `a ≤ b → T(a) ≤ T(b)`;
  * `align_fix` / `align_idem` — an aligned value is left alone, truncating twice is truncating once;
  * `align_floor`   — for the fixed-length units the truncation is the floor of the second count:
                      `civil_minute(cs)` is minute `⌊s/60⌋`, `civil_hour` `⌊s/3600⌋`, `civil_day` `⌊s/86400⌋`
                      (negative counts — dates before 1970 — included: toward the past, never toward zero);
  * `align_month_year` — month and year truncation count months / years: `12·y + (m−1)` and `y`;
  * `align_lt_next` — `f` lies strictly before the next aligned value: `T(f) ≤ f < T(f) + 1`.
-/
import Cctz.Properties.C04
import Cctz.Properties.C05

namespace Cctz.C04Align
open Cctz.Spec

def align_monotone_statement : Prop :=
  ∀ (t : Tag) (a b : Fields), Valid a → Valid b → secNum a ≤ secNum b →
    secNum (Civil.align t a) ≤ secNum (Civil.align t b)

def align_fix_statement : Prop :=
  ∀ (t : Tag) (f : Fields), Valid f → Aligned t f → Civil.align t f = f

def align_idem_statement : Prop :=
  ∀ (t : Tag) (f : Fields), Valid f → Civil.align t (Civil.align t f) = Civil.align t f

def align_floor_statement : Prop :=
  ∀ f : Fields, Valid f →
    unitNum .minute (Civil.align .minute f) = secNum f / 60 ∧
    unitNum .hour (Civil.align .hour f) = secNum f / 3600 ∧
    unitNum .day (Civil.align .day f) = secNum f / 86400

def align_month_year_statement : Prop :=
  ∀ f : Fields, Valid f →
    unitNum .month (Civil.align .month f) = 12 * f.y + (f.m - 1) ∧
    unitNum .year (Civil.align .year f) = f.y

/-- `T(f) ≤ f < T(f) + 1` in seconds, for every alignment (the step is the model's own `+ 1`) -/
def align_lt_next_statement : Prop :=
  ∀ (t : Tag) (f : Fields), Valid f →
    secNum (Civil.align t f) ≤ secNum f ∧
    secNum f < secNum (Civil.civilAdd t (Civil.align t f) 1).val

theorem align_monotone : align_monotone_statement := by
  intro t a b va vb hle
  obtain ⟨v1, a1, _, le1, _, _⟩ := C04.align_spec t a va
  obtain ⟨_, _, _, _, gr2, _⟩ := C04.align_spec t b vb
  exact gr2 _ v1 a1 (by omega)

theorem align_fix : align_fix_statement := by
  intro t f vf af
  obtain ⟨v1, _, _, le1, gr1, _⟩ := C04.align_spec t f vf
  have := gr1 f vf af (by omega)
  exact secNum_inj v1 vf (by omega)

theorem align_idem : align_idem_statement := by
  intro t f vf
  obtain ⟨v1, a1, _, _, _, _⟩ := C04.align_spec t f vf
  exact align_fix t _ v1 a1

theorem align_floor : align_floor_statement := by
  intro f vf
  obtain ⟨_, _, _, _, h0, h23, m0, m59, s0, s59⟩ := vf
  refine ⟨?_, ?_, ?_⟩
  · show dayNum f.y f.m f.d * 1440 + f.hh * 60 + f.mm = secNum f / 60
    unfold secNum; omega
  · show dayNum f.y f.m f.d * 24 + f.hh = secNum f / 3600
    unfold secNum; omega
  · show dayNum f.y f.m f.d = secNum f / 86400
    unfold secNum; omega

theorem align_month_year : align_month_year_statement := by
  intro f _
  exact ⟨rfl, rfl⟩

theorem align_lt_next : align_lt_next_statement := by
  intro t f vf
  obtain ⟨v1, a1, _, le1, gr1, _⟩ := C04.align_spec t f vf
  refine ⟨le1, ?_⟩
  obtain ⟨v2, a2, u2⟩ := C05.add_exact t _ 1 v1 a1
  -- if the next aligned value were not after `f`, it would be an aligned value ≤ f above T(f)
  by_cases h : secNum f < secNum (Civil.civilAdd t (Civil.align t f) 1).val
  · exact h
  · exfalso
    have hle := gr1 _ v2 a2 (by omega)
    have hlt : unitNum t (Civil.align t f) < unitNum t (Civil.civilAdd t (Civil.align t f) 1).val := by omega
    have := (unitNum_lt_iff t v1 v2 a1 a2).mp hlt
    omega

/-! non-trivial values: one second before the epoch truncates to the *previous* day/hour/minute -/
example : Valid ⟨1969, 12, 31, 23, 59, 59⟩ ∧ secNum ⟨1969, 12, 31, 23, 59, 59⟩ = -1 ∧
    unitNum .day (Civil.align .day ⟨1969, 12, 31, 23, 59, 59⟩) = -1 ∧
    unitNum .minute (Civil.align .minute ⟨1969, 12, 31, 23, 59, 59⟩) = -1 := by decide +kernel

end Cctz.C04Align
