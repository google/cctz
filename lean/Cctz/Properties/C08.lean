/-
  C08 — format() renders exactly the fields lookup() reports (model level).
  `strftime` is a parameter of the model; these theorems concern what the library renders itself,
  which text it hands to strftime, and that no format string makes it leave its buffers.
-/
import Cctz.Model.Format
import Cctz.Spec.FormatSpec
import Cctz.Proofs.FmLoop
import Cctz.Proofs.FmRfc
import Cctz.Proofs.LexLoop

namespace Cctz.C08
open Cctz Cctz.Bytes Cctz.Format Cctz.Spec

/-- what lookup() may report: a valid civil second with an int64 year, an offset below 25 h -/
def GoodLookup (al : Tz.AbsLookup) : Prop :=
  Valid al.cs ∧ inI64 al.cs.y ∧ -90000 < al.offset ∧ al.offset < 90000

def format64_statement : Prop :=
  ∀ (v : Int), format64 0 v = decInt v
def format64_year4_statement : Prop :=
  ∀ (y : Int), format64 4 y = year4 y
def format02d_statement : Prop :=
  ∀ (v : Int), 0 ≤ v → v ≤ 99 → (format02d v).ok ∧ (format02d v).val = decPad 2 v.toNat
def formatOffset_statement : Prop :=
  ∀ (off : Int), -90000 < off → off < 90000 →
    (formatOffset off []).val = offHM false off ∧ (formatOffset off [58]).val = offHM true off ∧
    (formatOffset off [58, 42]).val = offHMS off ∧ (formatOffset off [58, 42, 58]).val = offMin off ∧
    (formatOffset off []).ok ∧ (formatOffset off [58]).ok ∧ (formatOffset off [58, 42]).ok ∧ (formatOffset off [58, 42, 58]).ok

/-- literal text passes through unchanged: a format without '%' is copied verbatim and strftime is
not consulted -/
def literal_statement : Prop :=
  ∀ (fmt : Bytes) (al : Tz.AbsLookup) (t fs : Int), (∀ c ∈ fmt, c ≠ 37) → fmt ≠ [] →
    (formatSegs fmt al t fs).val.2 = [Seg.lit fmt]

/-- doubled percent signs: "%%" renders "%", for any surrounding literal text -/
def percent_statement : Prop :=
  ∀ (a b : Bytes) (al : Tz.AbsLookup) (t fs : Int), (∀ c ∈ a, c ≠ 37) → (∀ c ∈ b, c ≠ 37) →
    (render (fun _ _ => []) (formatSegs (a ++ [37, 37] ++ b) al t fs).val.1 (formatSegs (a ++ [37, 37] ++ b) al t fs).val.2)
      = a ++ [37] ++ b

/-- the RFC 3339 format: every field is the documented rendering of what lookup() reports, strftime
is not consulted -/
def rfc3339_statement : Prop :=
  ∀ (al : Tz.AbsLookup) (t fs : Int), GoodLookup al → 0 ≤ fs → fs < 1000000000000000 →
    let r := formatSegs (ofString "%Y-%m-%d%ET%H:%M:%E*S%Ez") al t fs
    r.ok ∧ (∀ sg ∈ r.val.2, ∃ b, sg = Seg.lit b) ∧
    render (fun _ _ => []) r.val.1 r.val.2 =
      decInt al.cs.y ++ [45] ++ decPad 2 al.cs.m.toNat ++ [45] ++ decPad 2 al.cs.d.toNat ++ [84] ++
      decPad 2 al.cs.hh.toNat ++ [58] ++ decPad 2 al.cs.mm.toNat ++ [58] ++ decPad 2 al.cs.ss.toNat ++
      (if fracStar fs = [] then [] else 46 :: fracStar fs) ++ offHM true al.offset

/-- no format string, however malformed, makes the cursor loop run away, index outside the format
string, or overrun the 21-byte scratch buffer -/
def format_safe_statement : Prop :=
  ∀ (fmt : Bytes) (al : Tz.AbsLookup) (t fs : Int), GoodLookup al → inI64 t → 0 ≤ fs → fs < 1000000000000000 →
    (formatSegs fmt al t fs).flags.oob = false ∧ (formatSegs fmt al t fs).flags.fuel = false ∧
    (formatSegs fmt al t fs).flags.unset = false

/-- the scratch buffer size and the specifier set are the documented ones -/
def constants_statement : Prop :=
  Gen.formatBufSize = 21 ∧ Gen.kDigits10_64 = 18 ∧
  Gen.formatSimpleSpecs = [89, 109, 100, 101, 85, 117, 87, 119, 72, 77, 83, 122, 90, 115, 37] ∧
  Gen.kExp10.length = 19 ∧ Gen.formatEDigits = (0, 0, 1024)

/-! ### proofs (helper lemmas in `Cctz/Proofs/Fm*.lean`; `format_safe` is part of what `Cctz/Proofs/Lex*.lean`
prove for every format string) -/

theorem constants : constants_statement := ⟨rfl, rfl, rfl, rfl, rfl⟩

theorem format64 : format64_statement := Fm.format64_zero

theorem format64_year4 : format64_year4_statement := Fm.format64_four

theorem format02d : format02d_statement := Fm.format02d_spec

theorem formatOffset : formatOffset_statement := by
  intro off h1 h2
  obtain ⟨a, b, c, d⟩ := Fm.formatOffset_val off h1 h2
  exact ⟨a, b, c, d, Fm.formatOffset_ok off _ h1 h2, Fm.formatOffset_ok off _ h1 h2,
    Fm.formatOffset_ok off _ h1 h2, Fm.formatOffset_ok off _ h1 h2⟩

/-! the renderers on concrete values: -1:00:30 shows the sign rules of the four offset forms -/
example : Cctz.Format.format64 0 (-42) = ofString "-42" ∧ Cctz.Format.format64 4 (-42) = ofString "-042"
    ∧ Cctz.Format.format64 4 12345 = ofString "12345" := by decide +kernel
example : (0 : Int) ≤ 7 ∧ (7 : Int) ≤ 99 ∧ (Cctz.Format.format02d 7).val = ofString "07" := by decide +kernel
example : (-90000 : Int) < -30 ∧ (-30 : Int) < 90000 ∧
    (Cctz.Format.formatOffset (-30) []).val = ofString "+0000" ∧
    (Cctz.Format.formatOffset (-30) [58, 42]).val = ofString "-00:00:30" ∧
    (Cctz.Format.formatOffset (-3600) [58, 42, 58]).val = ofString "-01" := by decide +kernel

theorem literal : literal_statement :=
  fun fmt al t fs h37 hne => Fm.literal_segs fmt al t fs h37 hne

theorem percent : percent_statement :=
  fun a b al t fs ha hb => Lx.percent_segs a b al t fs ha hb

/-! hypotheses satisfiable: "a-b" has no percent sign; "50%%!" renders "50%!" -/
example : (∀ c ∈ ofString "a-b", c ≠ 37) ∧ ofString "a-b" ≠ [] := by decide +kernel
example : (∀ c ∈ ofString "50", c ≠ 37) ∧ (∀ c ∈ ofString "!", c ≠ 37) ∧
    ofString "50" ++ [37, 37] ++ ofString "!" = ofString "50%%!" := by decide +kernel

theorem rfc3339 : rfc3339_statement := by
  intro al t fs hg h0 h1
  obtain ⟨hv, hy, ho1, ho2⟩ := hg
  exact Fm.rfc_segs al t fs hv hy ho1 ho2 h0 h1

/-! hypotheses satisfiable: 2024-02-29 23:59:58 at UTC-03:30 with half a second -/
example : GoodLookup ⟨⟨2024, 2, 29, 23, 59, 58⟩, -12600, false, ofString "NST"⟩ ∧
    (0 : Int) ≤ 500000000000000 ∧ (500000000000000 : Int) < 1000000000000000 := by
  unfold GoodLookup; decide +kernel

theorem format_safe : format_safe_statement := by
  intro fmt al t fs hg ht h0 h1
  obtain ⟨hv, hy, ho1, ho2⟩ := hg
  exact Wd.safe_of_ok _ (Lx.formatSegs_spec (fun _ _ => []) fmt al t fs hv hy ho1 ho2 ht h0 h1).1

/-! hypotheses satisfiable, on a format that ends inside a specifier and asks for a too wide
fraction: "%E99S%E*" -/
example : GoodLookup ⟨⟨-1, 12, 31, 23, 59, 59⟩, 89999, true, []⟩ ∧ inI64 (-62135596801) ∧
    (0 : Int) ≤ 999999999999999 ∧ (999999999999999 : Int) < 1000000000000000 := by
  unfold GoodLookup; decide +kernel
example :
    let r := formatSegs (ofString "%E99S%E*") ⟨⟨-1, 12, 31, 23, 59, 59⟩, 89999, true, []⟩ (-62135596801) 999999999999999
    r.flags = Flags.none ∧
    render (fun _ _ => []) r.val.1 r.val.2 = ofString "59.999999999999999000" := by decide +kernel

end Cctz.C08
