/-
  New York (the table `Rg.nyZone` of Cctz/Proofs/RgExample.lean: the two 2007 transitions followed
  by the rule instants of 2008 … 2408) with `lastYear = 2408` has `SeamOK` and `ShiftRoom`: an
  instance of `Seam.seamAt_of_rule`.  `Separated`, `TimesInRange` and `FirstEntryRoom` are first
  proved for an arbitrary table whose entry times satisfy a predicate `P` with a minimum gap and
  whose offsets lie in a band narrower than the gap, and then instantiated — so that neither the
  elaborator nor the kernel ever has to unfold the 804-entry table.
-/
import Cctz.Proofs.SeamRule
import Cctz.Proofs.RgExample
import Cctz.Properties.C01Glue

namespace Cctz.Seam
open Cctz Cctz.Tz Cctz.Spec Cctz.Rg

/-- `Rg.nyZone` with the `lastYear` that `ExtendTransitions` records for it -/
def nyZ : Zone := { Rg.nyZone with lastYear := some 2408 }

theorem nyZ_wf : TableWF nyZ := wf_lastYear ny_wf _
theorem nyZ_cols : CivilCols nyZ := cols_lastYear ny_cols _

theorem yearStart_eq (y : Int) : yearStart y = dayNum y 1 1 * 86400 := by
  unfold yearStart secNum; simp

/-- the second Sunday of March and the first Sunday of November lie inside their year on both clocks -/
theorem ny_inYear : InYear nyS nyE (-18000) (-14400) := by
  intro y a ha
  have hb := ny_bounds y
  have hs := jan1_step y (y + 1) (by omega)
  rw [yearStart_eq, yearStart_eq]
  unfold Inst at ha
  omega

theorem ny_reg : Reg nyS nyE 2007 (lastTime (fill nyTypes 0 nyRec)) :=
  reg_of_regular nySd_g nyEd_g ((C01Glue.regular_iff C01Glue.nyRule 2007 _).1 C01Glue.ny_regular)

theorem nyZ_off (k : Nat) : (typ nyZ k).utcOffset = offT nyTypes k := by
  show (typ nyZone k).utcOffset = _
  unfold nyZone
  rw [off_mkZone]

/-- the offsets of the three types, and 0 for an index that is none of them -/
theorem ny_off (k : Nat) : -18000 ≤ (typ nyZ k).utcOffset ∧ (typ nyZ k).utcOffset ≤ 0 ∧
    (k < 3 → (typ nyZ k).utcOffset ≤ -14400) := by
  rw [nyZ_off]
  unfold offT nyTypes
  match k with
  | 0 => decide
  | 1 => decide
  | 2 => decide
  | k + 3 => exact ⟨by simp [List.getD], by simp [List.getD], fun h => by omega⟩

theorem nyZ_parts : ∃ gen, nyZ.transitions.toList = fill nyTypes 0 nyRec ++ gen ∧
    gen.map key = (genList nyS nyE 2 1 (lastTime (fill nyTypes 0 nyRec)) 2007).map key :=
  keys_mkZone_ext nyTypes 0 nyRec nyS nyE 2 1 1194156000 2007

theorem nyZ_seamAt : SeamAt nyZ 2408 := by
  obtain ⟨gen, hl, hkeys⟩ := nyZ_parts
  refine seamAt_of_rule nyZ_wf (rec := fill nyTypes 0 nyRec) (by decide) (inst_per nySd 7200 (-18000) nySd_g)
    (inst_per nyEd 7200 (-14400) nyEd_g) hl hkeys ny_reg ny_chain
    (stdOff := -18000) (dstOff := -14400) (nyZ_off 1) (nyZ_off 2) (Or.inl (nyZ_off 1)) ?_ ny_inYear
  intro u hu
  have h1 : lastTime (fill nyTypes 0 nyRec) = 1194156000 := rfl
  have h2 : yearStart (2007 + 2) = 1230768000 := by decide
  have h3 := (ny_off (typeAt nyZ u)).2.1
  rw [offAt_typeAt, h2]
  omega

theorem nyZ_seamOK : SeamOK nyZ := fun _ => ⟨2408, rfl, nyZ_seamAt⟩

theorem nyZ_lastT : lastT nyZ = nyE 2408 := by
  obtain ⟨gen, hl, hkeys⟩ := nyZ_parts
  have := lastT_rule nyZ_wf (rec := fill nyTypes 0 nyRec) (by decide) hl hkeys ny_reg ny_chain
  have hb := ny_bounds 2408
  rw [this, show (2007 : Int) + 401 = 2408 by decide]
  omega

theorem nyZ_room : ShiftRoom nyZ := by
  intro _
  rw [nyZ_lastT]
  have hb := ny_bounds 2408
  have : dayNum 2408 1 1 = 159976 := by decide
  omega

/-! ### the rule instants are far apart -/

theorem ny_gap {y y' a b : Int} (ha : Inst nyS nyE y a) (hb : Inst nyS nyE y' b) (hab : a < b) :
    a + 3600 < b := by
  have h1 := ny_bounds y
  have h2 := ny_bounds y'
  rcases Int.lt_trichotomy y y' with h | h | h
  · have := jan1_step _ _ h
    unfold Inst at ha hb
    omega
  · subst h
    unfold Inst at ha hb
    omega
  · have := ny_chain.lt h hb ha
    omega

theorem ny_2007 : nyS 2007 = 1173596400 ∧ nyE 2007 = 1194156000 := by
  unfold nyS nyE
  rw [inst_model _ _ _ _ nySd_g, inst_model _ _ _ _ nyEd_g]
  decide +kernel

theorem ny_entry {x : Transition} (hx : x ∈ nyZ.transitions.toList) :
    ∃ y, 2007 ≤ y ∧ y ≤ 2408 ∧ Inst nyS nyE y x.unixTime := by
  obtain ⟨gen, hl, hkeys⟩ := nyZ_parts
  rw [hl] at hx
  rcases List.mem_append.1 hx with h | h
  · simp only [nyRec, fill, List.mem_cons, List.not_mem_nil, or_false] at h
    rcases h with h | h
    · exact ⟨2007, by omega, by omega, Or.inl (by rw [h, ny_2007.1]; rfl)⟩
    · exact ⟨2007, by omega, by omega, Or.inr (by rw [h, ny_2007.2]; rfl)⟩
  · obtain ⟨y, _, h1, h2, hk, _, _⟩ := gen_kind hkeys h
    exact ⟨y, h1, by omega, hk.inst⟩

/-! ### `Separated`, `TimesInRange`, `FirstEntryRoom` from a gap between entries -/

section generic
variable {z : Zone} (wf : TableWF z) {P : Int → Prop} {lo hi : Int}
  (hent : ∀ x, x ∈ z.transitions.toList → P x.unixTime)
  (hoff : ∀ k, k < z.types.size → lo ≤ (typ z k).utcOffset ∧ (typ z k).utcOffset ≤ hi)

include wf hoff in
theorem offOf_band (i : Nat) (hi' : i < z.transitions.size) : lo ≤ offOf z i ∧ offOf z i ≤ hi :=
  hoff _ (wf.typeIdx i hi')

include wf hoff in
theorem offBefore_band (i : Nat) (hi' : i < z.transitions.size) :
    lo ≤ offBefore z i ∧ offBefore z i ≤ hi := by
  unfold offBefore prevType
  split
  · exact hoff _ wf.defaultIdx
  · exact hoff _ (wf.typeIdx (i - 1) (by omega))

include wf hent hoff in
theorem sep_of_entries (hgap : ∀ a b, P a → P b → a < b → a + (hi - lo) < b) : Separated z := by
  intro i hi'
  have ha := hent _ (trn_mem z i (by omega))
  have hb := hent _ (trn_mem z (i + 1) hi')
  have hg := hgap _ _ ha hb (wf.timeSorted i (i + 1) (by omega) hi')
  have o1 := offOf_band wf hoff i (by omega)
  have o2 := offOf_band wf hoff (i + 1) hi'
  have o3 := offBefore_band wf hoff i (by omega)
  have o4 := offBefore_band wf hoff (i + 1) hi'
  unfold timeOf
  omega

include hent in
theorem tir_of_entries (hr : ∀ a, P a → inI64 a) : TimesInRange z :=
  fun i hi' => hr _ (hent _ (trn_mem z i hi'))

include wf hent hoff in
theorem fer_of_entries (hr : ∀ a, P a → i64min + (hi - lo) ≤ a) : FirstEntryRoom z := by
  have hn := wf.nonempty
  have h := hr _ (hent _ (trn_mem z 0 hn))
  have o1 := offOf_band wf hoff 0 hn
  have o3 := offBefore_band wf hoff 0 hn
  unfold FirstEntryRoom timeOf
  omega

end generic

/-- `a` is a rule instant of one of the tabulated years -/
def NyInst (a : Int) : Prop := ∃ y, 2007 ≤ y ∧ y ≤ 2408 ∧ Inst nyS nyE y a

theorem ny_off_band (k : Nat) (hk : k < nyZ.types.size) :
    -18000 ≤ (typ nyZ k).utcOffset ∧ (typ nyZ k).utcOffset ≤ -14400 :=
  ⟨(ny_off k).1, (ny_off k).2.2 hk⟩

theorem nyInst_range (a : Int) (ha : NyInst a) : 1167609600 ≤ a ∧ a ≤ 13848818400 := by
  obtain ⟨y, h1, h2, ha⟩ := ha
  have hb := ny_bounds y
  have m1 := jan1_mono _ _ h1
  have m2 := jan1_mono _ _ h2
  have d1 : dayNum 2007 1 1 = 13514 := by decide
  have d2 : dayNum 2408 1 1 = 159976 := by decide
  rcases ha with ha | ha <;> omega

theorem nyZ_sep : Separated nyZ :=
  sep_of_entries nyZ_wf (P := NyInst) (fun _ hx => ny_entry hx) ny_off_band
    fun _ _ ⟨_, _, _, ha⟩ ⟨_, _, _, hb⟩ hab => by have := ny_gap ha hb hab; omega

theorem nyZ_tir : TimesInRange nyZ :=
  tir_of_entries (P := NyInst) (fun _ hx => ny_entry hx) (fun a ha => by
    have := nyInst_range a ha
    unfold inI64 i64min i64max
    omega)

theorem nyZ_fer : FirstEntryRoom nyZ :=
  fer_of_entries nyZ_wf (P := NyInst) (fun _ hx => ny_entry hx) ny_off_band (fun a ha => by
    have := nyInst_range a ha
    unfold i64min
    omega)

end Cctz.Seam
