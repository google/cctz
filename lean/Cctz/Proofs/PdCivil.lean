/-
  The civil-second part of `parse`'s tail: construction without normalisation, the offset guard,
  and the lookup in the built-in UTC table.
-/
import Cctz.Proofs.PdDefs
import Cctz.Properties.C04
import Cctz.Properties.C01

namespace Cctz.Pd
open Cctz Cctz.Bytes Cctz.Format Cctz.Parse Cctz.Spec Cctz.Tz Cctz.Pa

theorem civilNew_second_val (y m d hh mm ss : Int) :
    (Civil.civilNew .second y m d hh mm ss).val = (Civil.nSec y m d hh mm ss).val := rfl

theorem civilNew_second (y m d hh mm ss : Int) :
    Valid (Civil.civilNew .second y m d hh mm ss).val ∧
    secNum (Civil.civilNew .second y m d hh mm ss).val = unnormSec y m d hh mm ss := by
  rw [civilNew_second_val]
  exact ⟨C04.nSec_valid y m d hh mm ss, C04.nSec_exact y m d hh mm ss⟩

/-- a time of day in range carries nothing into the day -/
theorem nSec_tod (y m d hh mm ss : Int) (h1 : 0 ≤ hh ∧ hh ≤ 23) (h2 : 0 ≤ mm ∧ mm ≤ 59) (h3 : 0 ≤ ss ∧ ss ≤ 59) :
    NormSpec (Civil.nSec y m d hh mm ss).val (monthDay y m d) hh mm ss := by
  have hn := nSec_norm y m d hh mm ss
  have e0 : ss / 60 = 0 := by omega
  rw [e0, Int.add_zero] at hn
  have e1 : mm / 60 = 0 := by omega
  rw [e1, Int.add_zero] at hn
  rwa [show hh / 24 = 0 by omega, Int.add_zero, show hh % 24 = hh by omega, show mm % 60 = mm by omega,
    show ss % 60 = ss by omega] at hn

/-- with the time of day in range, month and day survive the constructor only if the date exists,
and then nothing was changed -/
theorem no_norm (y m d hh mm ss : Int) (h1 : 0 ≤ hh ∧ hh ≤ 23) (h2 : 0 ≤ mm ∧ mm ≤ 59)
    (h3 : 0 ≤ ss ∧ ss ≤ 59)
    (hm : (Civil.civilNew .second y m d hh mm ss).val.m = m)
    (hd : (Civil.civilNew .second y m d hh mm ss).val.d = d) :
    (Civil.civilNew .second y m d hh mm ss).val = ⟨y, m, d, hh, mm, ss⟩ ∧ Valid ⟨y, m, d, hh, mm, ss⟩ := by
  rw [civilNew_second_val] at hm hd ⊢
  have hn := nSec_tod y m d hh mm ss h1 h2 h3
  have hv := hn.valid h1 h2 h3
  generalize (Civil.nSec y m d hh mm ss).val = cs at hm hd hn hv
  obtain ⟨⟨a1, a2, a3, a4⟩, hday, ehh, emm, ess⟩ := hn
  rw [hm] at hday a1 a2
  rw [hd] at hday
  rw [monthDay_of_range y m d a1 a2] at hday
  -- the year: compare the first of the month
  have hy : cs.y = y := by
    rw [dayNum_eq_first cs.y, dayNum_eq_first y] at hday
    have p1 := (daysInMonth_pos cs.y m).1
    have p2 := (daysInMonth_pos y m).1
    exact (dayNum_inj (d1 := 1) (d2 := 1) ⟨a1, a2, Int.le_refl 1, by omega⟩ ⟨a1, a2, Int.le_refl 1, by omega⟩
      (by omega)).1
  have hcs : cs = ⟨y, m, d, hh, mm, ss⟩ := by
    cases cs; simp only at hm hd hy ehh emm ess; subst hm hd hy ehh emm ess; rfl
  exact ⟨hcs, hcs ▸ hv⟩

/-- month 1..12, day 1..31: normalisation stays within the year -/
theorem norm_year (y m d hh mm ss : Int) (hm1 : 1 ≤ m) (hm2 : m ≤ 12) (hd1 : 1 ≤ d) (hd2 : d ≤ 31)
    (h1 : 0 ≤ hh ∧ hh ≤ 23) (h2 : 0 ≤ mm ∧ mm ≤ 59) (h3 : 0 ≤ ss ∧ ss ≤ 59) :
    (Civil.nSec y m d hh mm ss).val.y = y := by
  obtain ⟨vd, hday, _⟩ := nSec_tod y m d hh mm ss h1 h2 h3
  generalize (Civil.nSec y m d hh mm ss).val = r at vd hday
  rw [monthDay_of_range y m d hm1 hm2] at hday
  have p := daysInMonth_pos y m
  by_cases hle : d ≤ daysInMonth y m
  · exact (dayNum_inj vd ⟨hm1, hm2, hd1, hle⟩ hday).1
  · have hm12 : m ≠ 12 := by
      intro h; subst h
      have : daysInMonth y 12 = 31 := by simp [daysInMonth]
      omega
    have p2 := daysInMonth_pos y (m + 1)
    have e : dayNum y m d = dayNum y (m + 1) (d - daysInMonth y m) := by
      rw [dayNum_add_month y m _ hm1 (by omega), dayNum_eq_first y m d,
        dayNum_eq_first y m (d - daysInMonth y m)]
      omega
    rw [e] at hday
    exact (dayNum_inj vd ⟨by omega, by omega, by omega, by omega⟩ hday).1
/-! ### the offset guard -/

theorem guardVal_iff (cs : Fields) (off : Int) (hv : Valid cs) :
    guardVal cs off = true ↔
      (off < 0 ∧ secNum Wr.cmaxF + off < secNum cs) ∨ (off > 0 ∧ secNum cs < secNum Wr.cminF + off) := by
  unfold guardVal
  split
  · obtain ⟨v, _, u⟩ := civilAdd_spec .second Wr.cmaxF off Wr.valid_cmaxF trivial
    have u' : secNum (Civil.civilAdd .second Wr.cmaxF off).val = secNum Wr.cmaxF + off := u
    rw [lt_iff_secNum v hv, u']; omega
  · split
    · obtain ⟨v, _, u⟩ := civilAdd_spec .second Wr.cminF off Wr.valid_cminF trivial
      have u' : secNum (Civil.civilAdd .second Wr.cminF off).val = secNum Wr.cminF + off := u
      rw [lt_iff_secNum hv v, u']; omega
    · simp only [Bool.false_eq_true, false_iff]; omega

theorem civilSub_second (cs : Fields) (off : Int) (hv : Valid cs) :
    Valid (Civil.civilSub .second cs off).val ∧
    secNum (Civil.civilSub .second cs off).val = secNum cs - off := by
  obtain ⟨v, _, u⟩ := civilSub_spec .second cs off hv trivial
  exact ⟨v, u⟩

/-! ### the built-in UTC table -/

theorem utc_break (t : Int) :
    Valid (breakTime (Tl.fixedZone 0) 0 t).val.1.cs ∧ secNum (breakTime (Tl.fixedZone 0) 0 t).val.1.cs = t := by
  have h := C01.fixed_lookup 0 0 t (by decide) (by decide)
  simp only [Tl.reset_val] at h
  exact ⟨h.1, by rw [h.2.1]; omega⟩

/-- with a parsed offset: the lookup in UTC and the two saturation checks amount to a range check -/
theorem finish_utc (cs : Fields) (fs : Int) (hv : Valid cs) :
    finish (Tl.fixedZone 0) cs fs = if inI64 (secNum cs) then .ok (secNum cs) fs else .fail := by
  unfold finish
  simp only []
  obtain ⟨vmax, smax⟩ := utc_break i64max
  obtain ⟨vmin, smin⟩ := utc_break i64min
  simp only [Wr.utc_pre cs hv, lt_iff_secNum vmax hv, lt_iff_secNum hv vmin, smax, smin]
  by_cases hin : inI64 (secNum cs)
  · rw [if_pos hin]
    have hc : clamp64 (secNum cs) = secNum cs := Tc.clamp64_of_in hin
    simp only [hc]
    unfold inI64 at hin
    rw [if_neg (by omega), if_neg (by omega)]
  · rw [if_neg hin]
    unfold inI64 at hin
    by_cases h1 : secNum cs < i64min
    · have hc : clamp64 (secNum cs) = i64min := by unfold clamp64; rw [if_pos h1]
      simp only [hc]
      rw [if_neg (by intro h; exact absurd h.1 (by decide)), if_pos ⟨trivial, h1⟩]
    · have h2 : secNum cs > i64max := by omega
      have hc : clamp64 (secNum cs) = i64max := by unfold clamp64; rw [if_neg h1, if_pos h2]
      simp only [hc]
      rw [if_pos ⟨trivial, h2⟩]

end Cctz.Pd
