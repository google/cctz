/-
  C08 helper proofs: literal text.
-/
import Cctz.Proofs.LexScan

namespace Cctz.Fm
open Cctz Cctz.Bytes Cctz.Format Cctz.Wd Cctz.Lx

theorem formatSegs_val (fmt : Bytes) (al : Tz.AbsLookup) (t fs : Int) :
    (formatSegs fmt al t fs).val =
      ((toTM al).val, (formatLoop fmt.toArray al (toTM al).val t fs (fmt.length + 2) {}).val) := rfl

theorem literal_segs (fmt : Bytes) (al : Tz.AbsLookup) (t fs : Int) (h37 : ∀ c ∈ fmt, c ≠ 37) (hne : fmt ≠ []) :
    (formatSegs fmt al t fs).val.2 = [Seg.lit fmt] := by
  rw [formatSegs_val]
  show (formatLoop fmt.toArray al _ t fs (fmt.length + 1 + 1) {}).val = _
  obtain ⟨ht, hs⟩ := leadText_of_no37 fmt h37
  have hlen : 0 < fmt.length := List.length_pos_iff.2 hne
  have hk : pctCount (fmt.toArray.toList.drop 0) = 0 := by
    show ((fromPct fmt).takeWhile (· = 37)).length = 0
    rw [hs]; rfl
  have hc2 : cur2 fmt.toArray 0 = fmt.toArray.size := by
    show 0 + (leadText fmt).length + pctCount (fmt.toArray.toList.drop 0) = fmt.length
    rw [ht, hk]; omega
  rw [iteration_even {} (by show 0 < fmt.length; exact hlen) rfl (Or.inl hc2), loop_done' _ _ _ _ _ _ _ _ hc2,
    Ck.pure_val]
  show [] ++ prepSegs fmt.toArray 0 = _
  unfold prepSegs
  rw [hk, if_pos rfl, show leadText (fmt.toArray.toList.drop 0) = fmt from ht, if_neg hne]
  rfl

theorem render_lits (sf : Strftime) (tm : Tm) (l : List Bytes) :
    render sf tm (l.map Seg.lit) = l.flatten := by
  induction l with
  | nil => rfl
  | cons x xs ih =>
    simp only [render, List.map_cons, List.flatMap_cons, List.flatten_cons] at ih ⊢
    rw [ih]

end Cctz.Fm
